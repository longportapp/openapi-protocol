-- Root of the `OAP` library: imports every module that must build.
import OAP.Base
import OAP.LTS
import OAP.Gen.Facts
import OAP.Gen.Conn
import OAP.Gen.Funcs
import OAP.Model.Client.CloseSlice
import OAP.Model.Client.Dispatch
import OAP.Model.Client.DispatchClose
import OAP.Model.Client.Keepalive
import OAP.Model.Client.KeepaliveBounds
import OAP.Model.Client.LockWait
import OAP.Model.Client.Lockset
import OAP.Model.Client.LocksetConn
import OAP.Model.Client.Quartet
import OAP.Model.Client.Reading
import OAP.Model.Client.Reconnect
import OAP.Model.Client.Recovery
import OAP.Model.Client.RecoveryReplay
import OAP.Model.Client.ConnThreadsReplay
import OAP.Model.Client.SingleFlight
import OAP.Model.Client.Transport
import OAP.Model.Client.Waiters
import OAP.Model.Client.WsMap
import OAP.Model.Client.WsReading
import OAP.Model.Frame
import OAP.Model.Handshake
import OAP.Model.Inflate
import OAP.Model.Metadata
import OAP.Model.PacketErr
import OAP.Model.Client.ConnThreads
import OAP.Model.Pool
import OAP.Model.PoolGzip
import OAP.Model.PoolHeader
import OAP.Model.Request
import OAP.Model.Ring
import OAP.Model.Stream
import OAP.Model.World
import OAP.Proofs.BigEndian
import OAP.Proofs.Bytes
import OAP.Proofs.Frame
import OAP.Proofs.Header
import OAP.Proofs.Inflate
import OAP.Proofs.GenFuncsHdr
import OAP.Proofs.GenFuncsHs
import OAP.Proofs.GenFuncsMd
import OAP.Proofs.GenFuncsStream
import OAP.Proofs.GenFuncsProto
import OAP.Proofs.GenFuncsPack
import OAP.Proofs.GenFuncsUnpack
import OAP.Proofs.Metadata
import OAP.Proofs.Reading
import OAP.Proofs.Ring
import OAP.Proofs.Stream
import OAP.Proofs.StreamRing
import OAP.Proofs.StreamComplete
import OAP.Proofs.Waiters
import OAP.Proofs.WsReading
import OAP.Props.C01
import OAP.Props.C02
import OAP.Props.C03
import OAP.Props.C04
import OAP.Props.C04a
import OAP.Props.C04b
import OAP.Props.C05
import OAP.Props.C06
import OAP.Props.C07
import OAP.Props.C08
import OAP.Props.C09
import OAP.Props.C10
import OAP.Props.C11
import OAP.Props.C12
import OAP.Props.C13
import OAP.Props.C14
import OAP.Props.C15
import OAP.Props.C16
import OAP.Props.C17
import OAP.Props.C18
import OAP.Props.C19
import OAP.Props.C20
import OAP.Spec.Layout
