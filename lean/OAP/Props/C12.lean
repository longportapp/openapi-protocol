/-
C12 — Outbound byte stream is handshake + whole frames, in order. Property theorems only (view Transport).
-/
import OAP.Model.Client.Transport
import OAP.Gen.Facts
namespace OAP.C12
open OAP.Transport

/-- T2 structure facts, regenerated from go/client on every run (the operations the extractor keeps, in source order): Write = closed-check, Pack (caller-local), non-blocking enqueue (select/send/default). `wsConn.Write` first hands heartbeat and close packets to `writePing` / `writeClose` (a `WriteControl` on the caller's goroutine, not the queue): those calls are not among the kept operations, so the list is silent about them -/
theorem source_order :
    Gen.seq_tcpConn_Write = ["conn.closed", "conn.p.Pack", "conn.write"] ∧
    Gen.seq_tcpConn_write = ["conn.closed", "select", "send:conn.writeCh", "default"] ∧
    Gen.seq_wsConn_Write = ["conn.closed", "conn.p.Pack", "conn.write"] ∧
    Gen.seq_wsConn_write = ["conn.closed", "select", "send:conn.writeCh", "default"] :=
  ⟨rfl, rfl, rfl, rfl⟩


/-- for ANY number of concurrent writers and ANY pattern of partial socket writes and flushes: the bytes on the socket
are always a prefix of handshake ++ accepted frames in acceptance order — nothing interleaved, torn, re-ordered or
repeated; the handshake is first; once queue and remainder are empty the socket holds exactly that -/
theorem stream_shape (cap : Nat) (hs : Bytes) (acts : List Act) (s : St)
    (h : run cap (init hs) acts = some s) :
    s.sock <+: s.accepted.flatten ∧ (∃ rest, s.accepted = hs :: rest) ∧
    (s.queue = [] → s.pending = [] → s.sock = s.accepted.flatten) :=
  Transport.stream_shape cap hs acts s h

/-- the enqueue step is always enabled: a full queue is reported (counted in `rejected`), the caller never waits -/
theorem enqueue_nonblocking (cap : Nat) (s : St) (f : Bytes) : (step cap s (.enqueue f)).isSome = true := by
  simp only [step]; split <;> rfl


/-- T2 structure facts: the operation order of the two writer goroutines (one socket write / one WebSocket message per dequeued frame; close on error) -/
theorem writer_source :
    Gen.seq_tcpConn_writing = ["conn.closed", "select", "recv:conn.closeCh", "recv:conn.writeCh", "conn.conn.Write", "conn.Close", "recv:t.C", "conn.conn.Write", "conn.Close"] ∧
    Gen.seq_wsConn_writing = ["select", "recv:conn.closeCh", "recv:conn.writeCh", "conn.closed", "conn.conn.WriteMessage", "conn.Close"] :=
  ⟨rfl, rfl⟩

end OAP.C12
