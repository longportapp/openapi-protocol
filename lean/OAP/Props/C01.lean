/-
C01 — Frame round-trip fidelity (v1 and v2). Property theorems, after the two definitions every round-trip statement is phrased with:
`InDomain` (the packets `Pack` encodes faithfully) and `Equiv` (equal up to what the wire does not carry).
-/
import OAP.Model.Frame
import OAP.Proofs.Frame
import OAP.Proofs.StreamComplete
import OAP.Proofs.GenFuncsProto
import OAP.Proofs.GenFuncsPack
namespace OAP.C01
open OAP OAP.Frame

/-- an unknown packet type is refused (never encoded as something else) -/
theorem pack_error_unknown_type (v : Ver) (gz : GzOracle) (p : Packet) (thr : Int)
    (ht : p.type = .other) (hg : ∀ x, (gz.compress x).isPanic = false) :
    (pack v gz p thr).isOk = false := by
  rw [pack_wire]
  cases wireBody v gz p thr with
  | ok b => rw [Res.ok_bind, packTail_eq, if_pos ht]; split <;> rfl
  | err e => rfl
  | panic w => rfl

/-- a body over 2^24−1 bytes that is not compressed is refused -/
theorem pack_error_over_limit (v : Ver) (gz : GzOracle) (p : Packet) (thr : Int)
    (hc : gzipCond v thr p.body.length = false) (hl : 16777215 < p.body.length) :
    (pack v gz p thr).isOk = false := by
  rw [pack_of_wireBody v gz p thr p.body (by simp [wireBody, hc]), packTail_eq, if_pos hl]; rfl

/-- the packets the property speaks about: a known type, a command that fits its byte, a 16-byte
signature when signed, not already marked compressed, and (v2) metadata that is valid and fits -/
def InDomain (v : Ver) (p : Packet) : Prop :=
  p.type ≠ .other ∧ p.cmd.toNat < 256 ∧ (p.verify = true → p.signature.length = 16) ∧ p.gzip = false ∧
  (v = .v2 → (∀ kv ∈ p.values, Metadata.validPair kv = true) ∧
             ((Metadata.encPairs (Metadata.sortPairs p.values)).length : Int) ≤ 65535)

/-- the "same packet" relation of the property: the fields that the packet's type puts on the wire,
the metadata pairs in sorted key order (keys before lower-casing: the decoder model returns raw
pairs), and the body after decompression -/
def Equiv (v : Ver) (p q : Packet) : Prop :=
  q.type = p.type ∧ q.cmd = p.cmd ∧ (p.type ≠ .push → q.rid = p.rid) ∧ (p.type = .request → q.timeout = p.timeout) ∧
  (p.type = .response → q.status = p.status) ∧ q.verify = p.verify ∧
  (p.verify = true → q.nonce = p.nonce ∧ q.signature = p.signature) ∧
  (v = .v2 → q.values = Metadata.sortPairs p.values) ∧ q.body = p.body

/-- what `Pack` emits for a packet in the domain is a valid frame of the published layout
(`Denotes`: `ValidFrame` for some content and metadata pairs, `q` the packet its fields denote),
and the denoted packet is the packet that was sent -/
theorem pack_denotes (v : Ver) (gz : GzOracle) (p p' : Packet) (thr : Int) (bs : Bytes) (codec : UInt8)
    (hd : InDomain v p) (hs : gz.Sound) (h : pack v gz p thr = .ok (bs, p')) :
    ∃ f q, bs = Spec.encode v f ∧ Denotes v gz codec f q ∧ Equiv v p q := by
  obtain ⟨ht, hcmd, hsig, _, hmdv⟩ := hd
  obtain ⟨b, hb, rfl, _, hlen, rfl⟩ := pack_ok_wire h
  -- the wire body under the flag handed on: the compressor's output, which a sound oracle reads back, or the body itself
  have hgz : if gzipCond v thr p.body.length then gz.read b = some (p.body, true) else p.body = b := by
    unfold wireBody at hb
    split
    · obtain ⟨c, h1, h2⟩ := hs p.body
      rw [if_pos ‹_›, h1] at hb; cases hb; exact h2
    · rw [if_neg ‹_›] at hb; cases hb; rfl
  have hvalid := specOf_valid v gz { p with body := b, gzip := gzipCond v thr p.body.length } p.body ht hlen
    (fun hv2 => Metadata.rawPairs_marshalMap p.values 65535 (hmdv hv2).1 (hmdv hv2).2) hgz
  refine ⟨_, packetOf _ codec p.body (psOf v p.values), rfl, ⟨_, _, hvalid, rfl⟩, ?_⟩
  have hc : UInt32.ofNat (p.cmd.toNat % 256) = p.cmd := by
    rw [Nat.mod_eq_of_lt hcmd]; simp
  unfold Equiv packetOf specOf
  simp only [hc]
  have hv2 : v = Ver.v2 → psOf v p.values = Metadata.sortPairs p.values := by intro h; subst h; rfl
  cases hpv : p.verify
  · cases hpt : p.type <;> simp_all
  · have hsw := sigWindow_id p.signature (hsig hpv)
    cases hpt : p.type <;> simp_all

/-- ROUND TRIP (one-shot decoder): whatever `Pack` emits for a packet in the domain — with or without
compression, whatever the threshold — `UnpackBytes` accepts and decodes to the same packet -/
theorem roundtrip_oneshot (v : Ver) (gz : GzOracle) (p p' : Packet) (thr : Int) (bs : Bytes) (codec : UInt8)
    (hd : InDomain v p) (hs : gz.Sound) (h : pack v gz p thr = .ok (bs, p')) :
    ∃ q, unpackBytes v gz codec bs = .ok q ∧ Equiv v p q := by
  obtain ⟨f, q, rfl, hden, heq⟩ := pack_denotes v gz p p' thr _ codec hd hs h
  exact ⟨q, hden.oneshot, heq⟩

/-- … and for a RELAYED packet — one whose incoming gzip flag is set (as a decoder returns it for a
compressed frame) but that is in the domain otherwise: `Pack` ignores the incoming flag (it describes
another frame's body; `pack_flag_irrelevant`), so the round trip holds for it as well -/
theorem roundtrip_oneshot_relayed (v : Ver) (gz : GzOracle) (p p' : Packet) (thr : Int) (bs : Bytes) (codec : UInt8)
    (hd : InDomain v { p with gzip := false }) (hs : gz.Sound) (h : pack v gz p thr = .ok (bs, p')) :
    ∃ q, unpackBytes v gz codec bs = .ok q ∧ Equiv v p q := by
  have h' : pack v gz { p with gzip := false } thr = .ok (bs, p') := by rw [pack_flag_irrelevant]; exact h
  obtain ⟨q, h1, h2⟩ := roundtrip_oneshot v gz _ p' thr bs codec hd hs h'
  exact ⟨q, h1, h2⟩

/-- `Pack` never panics provided the compressor does not -/
theorem pack_no_panic (v : Ver) (gz : GzOracle) (p : Packet) (thr : Int)
    (hg : ∀ x, (gz.compress x).isPanic = false) : (pack v gz p thr).isPanic = false := by
  rw [pack_wire]
  refine Res.bind_noPanic ?_ fun _ _ => packTail_noPanic v _
  unfold wireBody; split
  · exact hg _
  · rfl

/-- EXACTLY when `Pack` refuses. `wireBody v gz p thr` (OAP/Proofs/Frame.lean) is the body as it goes on
the wire: `gz.compress p.body` when the threshold condition `gzipCond v thr |p.body|` holds, else
`p.body` itself. Whenever that is some `b` (always, for a sound oracle: `wireBody_sound`), `Pack`
succeeds iff the type is known and `b` fits the 24-bit length field — no other packet field matters. -/
theorem pack_ok_iff (v : Ver) (gz : GzOracle) (p : Packet) (thr : Int) (b : Bytes)
    (hb : wireBody v gz p thr = .ok b) :
    (pack v gz p thr).isOk = true ↔ (p.type ≠ .other ∧ b.length ≤ 16777215) := by
  rw [pack_of_wireBody v gz p thr b hb, packTail_isOk]

/-- … and the refusal is a returned error (not a panic), for exactly two reasons: unknown type, or a
wire body over 2^24−1 bytes -/
theorem pack_error_iff (v : Ver) (gz : GzOracle) (p : Packet) (thr : Int) (b : Bytes)
    (hb : wireBody v gz p thr = .ok b) :
    ((pack v gz p thr).isOk = false ↔ (p.type = .other ∨ 16777215 < b.length)) ∧
    ((∃ e, pack v gz p thr = .err e) ↔ (p.type = .other ∨ 16777215 < b.length)) := by
  rw [pack_of_wireBody v gz p thr b hb, packTail_eq]
  show ((if 16777215 < b.length then _ else if p.type = .other then _ else _ : Res (Bytes × Packet)).isOk = false ↔ _) ∧ _
  split
  · simp [Res.isOk, *]
  · split <;> simp [Res.isOk, *]

/-- with a sound compressor, in one statement -/
theorem pack_error_iff_sound (v : Ver) (gz : GzOracle) (p : Packet) (thr : Int) (hs : gz.Sound) :
    ∃ b, wireBody v gz p thr = .ok b ∧
      ((∃ e, pack v gz p thr = .err e) ↔ (p.type = .other ∨ 16777215 < b.length)) := by
  obtain ⟨b, hb⟩ := wireBody_sound v gz p thr hs
  exact ⟨b, hb, (pack_error_iff v gz p thr b hb).2⟩

/-! non-vacuity: a v2 response with verify, one metadata pair and a 3-byte body is in the domain, `Pack`
accepts it (identity "compressor", which is Sound), and the round trip applies -/

def exPacket : Packet :=
  { type := .response, cmd := 7, rid := 0x01020304, status := 9, verify := true, nonce := 5
    signature := List.replicate 16 0xAA, values := [([0x61], [0x78])], codec := 1, body := [1, 2, 3] }

def idGz : GzOracle := { compress := fun x => .ok x, read := fun c => some (c, true) }

theorem idGz_sound : idGz.Sound := fun x => ⟨x, rfl, rfl⟩

theorem exPacket_inDomain : InDomain .v2 exPacket := by
  refine ⟨by decide, by decide, by decide, by decide, fun _ => ⟨by decide, ?_⟩⟩
  have : Metadata.sortPairs exPacket.values = [([0x61], [0x78])] := by
    simp [Metadata.sortPairs, exPacket]
  rw [this]; decide

theorem exPacket_packs (thr : Int) (hb : wireBody .v2 idGz exPacket thr = .ok [1, 2, 3]) :
    ∃ r, pack .v2 idGz exPacket thr = .ok r :=
  Res.ok_of_isOk ((pack_ok_iff .v2 idGz exPacket thr _ hb).mpr ⟨by decide, by decide⟩)

example : ∃ bs p' q, pack .v2 idGz exPacket 0 = .ok (bs, p') ∧ unpackBytes .v2 idGz 1 bs = .ok q ∧ Equiv .v2 exPacket q := by
  obtain ⟨⟨bs, p'⟩, h⟩ := exPacket_packs 0 (by decide)
  obtain ⟨q, h1, h2⟩ := roundtrip_oneshot .v2 idGz exPacket p' 0 bs 1 exPacket_inDomain idGz_sound h
  exact ⟨bs, p', q, h, h1, h2⟩

/-- the same with compression engaged (threshold 1 ≤ 3 bytes) -/
example : ∃ bs p' q, pack .v2 idGz exPacket 1 = .ok (bs, p') ∧ p'.gzip = true ∧
    unpackBytes .v2 idGz 1 bs = .ok q ∧ Equiv .v2 exPacket q := by
  obtain ⟨⟨bs, p'⟩, h⟩ := exPacket_packs 1 (by decide)
  obtain ⟨q, h1, h2⟩ := roundtrip_oneshot .v2 idGz exPacket p' 1 bs 1 exPacket_inDomain idGz_sound h
  obtain ⟨_, _, rfl, -⟩ := pack_ok_wire h
  exact ⟨bs, _, q, h, rfl, h1, h2⟩

/-- the frames `Pack` emits for a list of packets in the domain (each with its own threshold) are
valid layout frames denoting the packets sent, in order -/
theorem packs_denote (v : Ver) (gz : GzOracle) (codec : UInt8) (hs : gz.Sound)
    (sent : List (Packet × Int)) (frames : List Bytes)
    (hd : ∀ x ∈ sent, InDomain v x.1)
    (hp : Forall₂ (fun x bs => ∃ p', pack v gz x.1 x.2 = .ok (bs, p')) sent frames) :
    ∃ fs qs, frames = fs.map (Spec.encode v) ∧ Forall₂ (Denotes v gz codec) fs qs ∧
      Forall₂ (Equiv v) (sent.map (·.1)) qs := by
  induction hp with
  | nil => exact ⟨[], [], rfl, .nil, .nil⟩
  | @cons x bs xs bss hab _ ih =>
    obtain ⟨p', hpk⟩ := hab
    obtain ⟨f, q, hbs, hden, heq⟩ := pack_denotes v gz x.1 p' x.2 bs codec (hd x (by simp)) hs hpk
    obtain ⟨fs, qs, hfr, hdens, heqs⟩ := ih (fun y hy => hd y (by simp [hy]))
    exact ⟨f :: fs, q :: qs, by rw [hbs, hfr]; rfl, .cons hden hdens, .cons heq heqs⟩

/-- ROUND TRIP (streaming decoder, end to end). Any list of packets in the domain, each packed with
its own gzip threshold (`sent : List (Packet × Int)`), a sound gzip oracle; `frames` are the byte
strings `Pack` returns, in order. Then for EVERY way `chunks` of cutting the concatenated frames
into pieces — byte by byte, across header / metadata / body / trailer boundaries, several frames
in one chunk, empty chunks — feeding the chunks one by one into a fresh connection (append to the
queue, loop `Unpack` until it reports no packet) delivers exactly one packet per packet sent, in
order, each `Equiv` to the one sent, and no error verdict. `Forall₂` (OAP/Proofs/StreamComplete.lean)
is the element-by-element relation of two lists of the same length (`forall₂_iff_getElem`). -/
theorem roundtrip_stream (v : Ver) (gz : GzOracle) (codec : UInt8) (hs : gz.Sound)
    (sent : List (Packet × Int)) (frames : List Bytes)
    (hd : ∀ x ∈ sent, InDomain v x.1)
    (hp : Forall₂ (fun x bs => ∃ p', pack v gz x.1 x.2 = .ok (bs, p')) sent frames)
    (chunks : List Bytes) (hc : chunks.flatten = frames.flatten) :
    ∃ qs, (feed v gz codec chunks).obs = (qs, none) ∧ Forall₂ (Equiv v) (sent.map (·.1)) qs := by
  obtain ⟨fs, qs, hfr, hden, heq⟩ := packs_denote v gz codec hs sent frames hd hp
  exact ⟨qs, feed_frames v gz codec fs qs hden chunks (by rw [hc, hfr]), heq⟩

/-- the same over the REAL ring buffer model: the chunks are `Write`-n into any well-formed empty
ring — any capacity (growth included), any read/write offset — and `Unpack` is looped over the ring
after each write -/
theorem roundtrip_stream_ring (v : Ver) (gz : GzOracle) (codec : UInt8) (hs : gz.Sound)
    (sent : List (Packet × Int)) (frames : List Bytes)
    (hd : ∀ x ∈ sent, InDomain v x.1)
    (hp : Forall₂ (fun x bs => ∃ p', pack v gz x.1 x.2 = .ok (bs, p')) sent frames)
    (rb0 : Ring) (wf : rb0.WF) (he : rb0.abs = [])
    (chunks : List Bytes) (hc : chunks.flatten = frames.flatten) :
    ∃ qs, (rfeed v gz codec rb0 chunks).obs = (qs, none) ∧ Forall₂ (Equiv v) (sent.map (·.1)) qs := by
  rw [rfeed_obs v gz codec rb0 wf he chunks]
  exact roundtrip_stream v gz codec hs sent frames hd hp chunks hc

/-- instance: a ring from `ringbuffer.New(cap)`, any initial capacity (0 included) -/
theorem roundtrip_stream_ring_new (v : Ver) (gz : GzOracle) (codec : UInt8) (hs : gz.Sound)
    (sent : List (Packet × Int)) (frames : List Bytes)
    (hd : ∀ x ∈ sent, InDomain v x.1)
    (hp : Forall₂ (fun x bs => ∃ p', pack v gz x.1 x.2 = .ok (bs, p')) sent frames)
    (cap : Nat) (chunks : List Bytes) (hc : chunks.flatten = frames.flatten) :
    ∃ qs, (rfeed v gz codec (Ring.new cap) chunks).obs = (qs, none) ∧ Forall₂ (Equiv v) (sent.map (·.1)) qs :=
  roundtrip_stream_ring v gz codec hs sent frames hd hp _ (Ring.Holds.new cap).wf (Ring.Holds.new cap).abs chunks hc

/-- a single packet, a single threshold -/
theorem roundtrip_stream_one (v : Ver) (gz : GzOracle) (p p' : Packet) (thr : Int) (bs : Bytes) (codec : UInt8)
    (hd : InDomain v p) (hs : gz.Sound) (h : pack v gz p thr = .ok (bs, p'))
    (chunks : List Bytes) (hc : chunks.flatten = bs) :
    ∃ q, (feed v gz codec chunks).obs = ([q], none) ∧ Equiv v p q := by
  obtain ⟨qs, h1, h2⟩ := roundtrip_stream v gz codec hs [(p, thr)] [bs] (by simpa using hd)
    (.cons ⟨p', h⟩ .nil) chunks (by simpa using hc)
  cases h2 with
  | cons hq ht => cases ht; exact ⟨_, h1, hq⟩

/-! non-vacuity: the example packet sent twice — once plain (threshold 0), once with compression
engaged (threshold 1) — over v2; every chunking of the two frames delivers two packets `Equiv` to it,
from the queue and from a ring of initial capacity 4 (which has to grow) -/
example : ∃ b1 p1 b2 p2, pack .v2 idGz exPacket 0 = .ok (b1, p1) ∧ pack .v2 idGz exPacket 1 = .ok (b2, p2) ∧
    ∀ chunks : List Bytes, chunks.flatten = b1 ++ b2 →
      ∃ q1 q2, (feed .v2 idGz 1 chunks).obs = ([q1, q2], none) ∧
        (rfeed .v2 idGz 1 (Ring.new 4) chunks).obs = ([q1, q2], none) ∧
        Equiv .v2 exPacket q1 ∧ Equiv .v2 exPacket q2 := by
  obtain ⟨⟨b1, p1⟩, h0⟩ := exPacket_packs 0 (by decide)
  obtain ⟨⟨b2, p2⟩, h1⟩ := exPacket_packs 1 (by decide)
  refine ⟨b1, p1, b2, p2, h0, h1, fun chunks hc => ?_⟩
  have hd : ∀ x ∈ [(exPacket, (0 : Int)), (exPacket, 1)], InDomain .v2 x.1 := by
    intro x hx
    simp only [List.mem_cons, List.not_mem_nil, or_false] at hx
    rcases hx with rfl | rfl <;> exact exPacket_inDomain
  have hp : Forall₂ (fun x bs => ∃ p', pack .v2 idGz x.1 x.2 = .ok (bs, p'))
      [(exPacket, (0 : Int)), (exPacket, 1)] [b1, b2] := .cons ⟨p1, h0⟩ (.cons ⟨p2, h1⟩ .nil)
  obtain ⟨qs, hq1, hq2⟩ := roundtrip_stream .v2 idGz 1 idGz_sound _ _ hd hp chunks (by simpa using hc)
  have hr := rfeed_obs .v2 idGz 1 (Ring.new 4) (Ring.Holds.new 4).wf (Ring.Holds.new 4).abs chunks
  cases hq2 with
  | cons e1 ht => cases ht with
    | cons e2 ht2 => cases ht2; exact ⟨_, _, hq1, by rw [hr, hq1], e1, e2⟩

/-! ### generated translations of the one-shot decoders (T2, function level)

`Gen.Fn.v1_protocolV1_UnpackBytes`, `v2_protocolV2_UnpackBytes` and `v1_Header_Metadata` are rewritten from go/v1/v1.go, go/v2/v2.go and
go/v1/header.go by every run: the pooled header (a fresh zero header), the call of the translated `Header.UnpackBytes` with its error handed
on, the length guards, every slice of `data` (with `panic` where Go would panic, the v2 upper bound computed in uint32 as in the source),
the `protocol.Packet` / `protocol.Metadata` literals (structures generated from go/packet.go and go/metadata.go), the nonce read with
`binary.BigEndian.Uint64`, the signature `data[idx+NonceLength:]`, `gzip.Decompress` as the oracle `Gzip.decompress gz`, and (v2)
`UnmarshalMetadata` as the model's `Metadata.unmarshalValues lower`. `roundtrip_oneshot`, `C02.decode_accepts`, C04's theorems are about the
model's `Frame.unpackBytes`; these say it is the same function. -/

/-- `func (p *protocolV1) UnpackBytes(ctx, bs) (packet *protocol.Packet, err error)` and its v2 twin as translated: the same packet
(`GenFuncs.toModelPacket` flattens `Packet{Metadata, Body}` into the model's record and maps the `protocol.PacketType` constants to `PType`),
the same error in the same case, no index or slice out of range — for EVERY byte string, codec and gzip oracle; `some`: never a nil packet
without an error. For v2 the generated function lower-cases the metadata keys (`lower` = strings.ToLower, as `UnmarshalValues` does) where
the model's decoder returns the raw pairs (see `Equiv`): equal up to `GenFuncs.lowerKeys lower`, and equal outright for `lower = id`. -/
theorem unpackBytes_is_generated (gz : GzOracle) (lower : Bytes → Bytes) (codec : UInt8) (bs : Bytes) :
    (Gen.Fn.v1_protocolV1_UnpackBytes gz codec bs).map (Option.map GenFuncs.toModelPacket) = (unpackBytes .v1 gz codec bs).map some ∧
    (Gen.Fn.v2_protocolV2_UnpackBytes gz lower codec bs).map (Option.map GenFuncs.toModelPacket) =
      (unpackBytes .v2 gz codec bs).map (fun p => some (GenFuncs.lowerKeys lower p)) ∧
    (Gen.Fn.v2_protocolV2_UnpackBytes gz id codec bs).map (Option.map GenFuncs.toModelPacket) = (unpackBytes .v2 gz codec bs).map some := by
  refine ⟨GenFuncs.v1_unpackBytes_gen gz codec bs, GenFuncs.v2_unpackBytes_gen gz lower codec bs, ?_⟩
  rw [GenFuncs.v2_unpackBytes_gen]
  congr 1
  funext p
  simp [GenFuncs.lowerKeys]

/-- `func (h Header) Metadata(ctx) *protocol.Metadata` as translated is the model's `Header.toPacket` (any body attached) -/
theorem header_metadata_is_generated (h : Gen.Fn.V1Header) (codec : UInt8) (b : Bytes) :
    (Gen.Fn.v1_Header_Metadata h codec).map (fun m => GenFuncs.toModelPacket { metadata := m, body := b }) =
      .ok { Header.toPacket (GenFuncs.v1M h) codec with body := b } := by
  rw [GenFuncs.v1_header_metadata_eq]
  exact congrArg Res.ok (GenFuncs.toModel_headerMd h codec b)

/-- non-vacuity: the translated v1 decoder on a push frame with a 3-byte body, and on a frame cut short -/
example : Gen.Fn.v1_protocolV1_UnpackBytes idGz 1 [0x03, 7, 0, 0, 3, 1, 2, 3] =
    .ok (some { metadata := { type := .pushPacket, cmdCode := 7, codec := 1 }, body := [1, 2, 3] }) := by decide +kernel
example : Gen.Fn.v1_protocolV1_UnpackBytes idGz 1 [0x03, 7, 0, 0, 3, 1, 2] = .err "invalid frame" := by decide +kernel

/-- T2 tie at function level for the protocol-level ENCODERS: `(*protocolV1).Pack` (go/v1/v1.go) and `(*protocolV2).Pack` (go/v2/v2.go),
translated statement by statement from the Go source in this run (`Gen.Fn.v1_protocolV1_Pack`, `Gen.Fn.v2_protocolV2_Pack`; with them
both `headerFromMetadata`: pool Get as the zero header, the deferred Put skipped; the variadic options collapsed to the threshold `thr`
they set — `NewPackOptions` starts from `MinGzipSize = 0`, `GzipSize(n)` sets it; the packet pointer threaded and returned as mutated;
`gzip.Compress` as the oracle's `compress`; `make`/`copy`/`PutUint64` as the checked `Bytes.copyAt`/`Bytes.putBE64`;
`MarshalMetadata` as `Metadata.marshalMap`), equal the model's `Frame.pack` that the theorems above, `C02.*` and `C10.gzip_flag_iff` are
about: the same frame, the same mutated packet (`Body` overwritten by the compressed bytes, `Metadata.Gzip` describing this frame), the
same errors in the same order (compressor error, body limit, invalid type), and no panic the model does not have — for every oracle,
every threshold (negative ones included) and every packet: any type (`GenFuncs.toG` maps `PType.other` to ""), a signature of ANY length
(the `copy` into the last sixteen bytes is the model's `sigWindow`), bodies and metadata of any size. No hypothesis is needed. -/
theorem pack_is_generated (gz : GzOracle) (p : Packet) (thr : Int) :
    (Gen.Fn.v1_protocolV1_Pack gz (GenFuncs.toG p) thr).map (fun r => (r.1, GenFuncs.toModelPacket r.2)) = pack .v1 gz p thr ∧
    (Gen.Fn.v2_protocolV2_Pack gz (GenFuncs.toG p) thr).map (fun r => (r.1, GenFuncs.toModelPacket r.2)) = pack .v2 gz p thr := by
  rw [GenFuncs.v1_pack_gen_g, GenFuncs.v2_pack_gen_g, GenFuncs.toModel_toG]
  exact ⟨rfl, rfl⟩

/-- … and over the generated packets themselves (`toG` and `toModelPacket` are inverse to each other) -/
theorem pack_is_generated' (gz : GzOracle) (g : Gen.Fn.GPacket) (thr : Int) :
    (Gen.Fn.v1_protocolV1_Pack gz g thr).map (fun r => (r.1, GenFuncs.toModelPacket r.2)) = pack .v1 gz (GenFuncs.toModelPacket g) thr ∧
    (Gen.Fn.v2_protocolV2_Pack gz g thr).map (fun r => (r.1, GenFuncs.toModelPacket r.2)) = pack .v2 gz (GenFuncs.toModelPacket g) thr ∧
    GenFuncs.toG (GenFuncs.toModelPacket g) = g :=
  ⟨GenFuncs.v1_pack_gen_g gz g thr, GenFuncs.v2_pack_gen_g gz g thr, GenFuncs.toG_toModel g⟩

/-- `headerFromMetadata` of both versions as translated is the model's -/
theorem headerFromMetadata_is_generated (g : Gen.Fn.GPacket) :
    (Gen.Fn.v1_headerFromMetadata g.metadata).map GenFuncs.v1M = .ok (headerFromMetadata .v1 (GenFuncs.toModelPacket g)) ∧
    (Gen.Fn.v2_headerFromMetadata g.metadata).map GenFuncs.v2M = .ok (headerFromMetadata .v2 (GenFuncs.toModelPacket g)) := by
  rw [GenFuncs.v1_hfm_eq, GenFuncs.v2_hfm_eq]
  exact ⟨rfl, rfl⟩

/-- a verified push packet with a 3-byte signature -/
def exPushG : Gen.Fn.GPacket :=
  { metadata := { type := .pushPacket, cmdCode := 7, verify := true, nonce := 1, signature := [9, 9, 9] }, body := [1, 2] }

/-- non-vacuity: the translated v1 encoder on `exPushG` (zero-padded signature window), no compression; and on a packet without a type -/
example : Gen.Fn.v1_protocolV1_Pack idGz exPushG 0 =
    .ok ([0x13, 7, 0, 0, 2, 1, 2, 0, 0, 0, 0, 0, 0, 0, 1, 9, 9, 9, 0, 0, 0, 0, 0, 0, 0, 0, 0, 0, 0, 0, 0], exPushG) := by decide +kernel
example : Gen.Fn.v1_protocolV1_Pack idGz { metadata := { cmdCode := 7 }, body := [1, 2] } 0 = .err "invalid packet type" := by decide +kernel

/-- the one-shot decoders and the encoders of both versions, `Header.Metadata` and both `headerFromMetadata` were inside the translatable
subset in this run -/
theorem functions_translated :
    ["v1.Header.Metadata", "v1.protocolV1.UnpackBytes", "v2.protocolV2.UnpackBytes",
     "v1..headerFromMetadata", "v2..headerFromMetadata", "v1.protocolV1.Pack", "v2.protocolV2.Pack"].all (fun f => Gen.Fn.translated.contains f) = true := by decide +kernel

end OAP.C01
