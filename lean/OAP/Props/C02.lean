/-
C02 — Wire-format conformance to the published frame layout (OAP/Spec/Layout.lean).
-/
import OAP.Model.Frame
import OAP.Spec.Layout
import OAP.Proofs.Frame
import OAP.Props.C09
import OAP.Proofs.GenFuncsHdr
namespace OAP.C02
open OAP OAP.Frame

/-- an empty input is rejected -/
theorem decode_rejects_empty (v : Ver) (gz : GzOracle) (codec : UInt8) :
    ∃ e, unpackBytes v gz codec [] = .err e :=
  ⟨_, unpackBytes_nil v gz codec⟩

/-- a frame whose type nibble is not request/response/push is rejected, whatever follows -/
theorem decode_rejects_unknown_type (v : Ver) (gz : GzOracle) (codec : UInt8) (b : UInt8) (rest : Bytes)
    (h : isUnknown (ubType v b) = true) : ∃ e, unpackBytes v gz codec (b :: rest) = .err e :=
  ⟨_, unpackBytes_unknown gz codec rest h⟩

/-- the type nibble is the low nibble of byte 0: exactly the nibbles 1, 2, 3 are known -/
theorem known_nibbles : ∀ b : Fin 256,
    (isUnknown (ubType .v1 (UInt8.ofFin b)) = !(b.val % 16 == 1 || b.val % 16 == 2 || b.val % 16 == 3)) ∧
    (isUnknown (ubType .v2 (UInt8.ofFin b)) = !(b.val % 16 == 1 || b.val % 16 == 2 || b.val % 16 == 3)) := by
  decide +kernel

/-- ENCODER DIRECTION: whatever `Pack` emits — any packet, version, gzip threshold and gzip oracle —
is byte for byte the published layout of the packet as it leaves Pack (`specOf`: reserve = 0, cmd
truncated to 8 bits, v2 metadata block = sorted MarshalValues(65535), body as on the wire) -/
theorem pack_conforms (v : Ver) (gz : GzOracle) (p p' : Packet) (thr : Int) (bs : Bytes)
    (h : pack v gz p thr = .ok (bs, p')) : bs = Spec.encode v (specOf v p') :=
  (pack_ok_wire h).elim fun _ h => h.2.2.2.2

/-- DECODER DIRECTION: every frame of the published layout with a known type, in-range fields and
consistent variable parts (`ValidFrame`, in OAP/Proofs/Frame.lean) is accepted by the one-shot decoder
and decoded to exactly the layout's field values (`packetOf`) — every type nibble in {1,2,3}, every
flag combination, every reserve value 0..3, every field extreme, both versions -/
theorem decode_accepts (v : Ver) (gz : GzOracle) (codec : UInt8) (f : Spec.Frame) (content : Bytes)
    (ps : List Metadata.Pair) (hv : ValidFrame v gz f content ps) :
    unpackBytes v gz codec (Spec.encode v f) = .ok (packetOf f codec content ps) :=
  unpackBytes_spec hv codec

/-- the reserve bits are ignored by the decoder: same packet for every reserve value -/
theorem decode_ignores_reserve (v : Ver) (gz : GzOracle) (codec : UInt8) (f : Spec.Frame) (content : Bytes)
    (ps : List Metadata.Pair) (hv : ValidFrame v gz f content ps) (r : Nat) (hr : r ≤ 3) :
    unpackBytes v gz codec (Spec.encode v { f with reserve := r }) = unpackBytes v gz codec (Spec.encode v f) := by
  have hv' : ValidFrame v gz { f with reserve := r } content ps := { hv with reserve := hr }
  rw [decode_accepts v gz codec _ content ps hv', decode_accepts v gz codec f content ps hv]
  rfl

/-- every strict prefix of a valid frame is rejected with an error (never accepted, never a panic) -/
theorem decode_rejects_strict_prefix (v : Ver) (gz : GzOracle) (codec : UInt8) (f : Spec.Frame) (content : Bytes)
    (ps : List Metadata.Pair) (hv : ValidFrame v gz f content ps) (k : Nat) (hk : k < (Spec.encode v f).length) :
    ∃ e, unpackBytes v gz codec ((Spec.encode v f).take k) = .err e :=
  unpackBytes_prefix hv codec k hk

/-- for ANY input: acceptance needs the whole frame — a known type nibble, the complete header and,
after it, at least the announced metadata block, the announced body and (verify bit set) the 24-byte
trailer. (`mdLenOf v H` is 0 for v1 and the header's metadata_len for v2.) -/
theorem decode_needs_whole_frame (v : Ver) (gz : GzOracle) (codec : UInt8) (bs : Bytes) (p : Packet)
    (h : unpackBytes v gz codec bs = .ok p) :
    ∃ b0 rest H, bs = b0 :: rest ∧ isUnknown (ubType v b0) = false ∧
      Header.unpackBytes v bs = .ok (H, bs.drop (hdrLen v (ubType v b0))) ∧
      hdrLen v (ubType v b0) + mdLenOf v H + H.bodyLength.toNat +
        (if (ubVerify v b0 == 1) = true then 24 else 0) ≤ bs.length := by
  rw [unpackBytes_eq] at h
  cases bs with
  | nil => rw [Header.unpackBytes_nil] at h; cases h
  | cons b0 rest =>
    obtain ⟨n, hn⟩ : ∃ n, hdrLen v (ubType v b0) = n + 1 :=
      ⟨_, (Nat.sub_add_cancel (by have := hdrLen_ge v (ubType v b0); omega)).symm⟩
    rw [Header.unpackBytes_cons] at h ⊢
    cases hk : isUnknown (ubType v b0) <;> rw [hk] at h <;> try cases h
    by_cases hs : rest.length + 1 < hdrLen v (ubType v b0)
    · rw [if_pos hs] at h; cases h
    · rw [if_neg (by decide), if_neg hs] at h ⊢
      refine ⟨b0, rest, _, rfl, hk, by rw [hn]; rfl, Nat.le_of_not_lt fun hc => ?_⟩
      -- otherwise the stages after the header run short
      have hvf : (coreHdr (restAbs v (parse0 v {} b0) rest).1).verify = ubVerify v b0 := by
        rw [ub_us_verify]; exact restAbs_verify v _ rest
      obtain ⟨e, he⟩ := oneShotBody_short v gz codec (coreHdr (restAbs v (parse0 v {} b0) rest).1)
        (rest.drop (hdrLen v (ubType v b0) - 1)) (by
          rw [List.length_drop, hvf]; simp only [List.length_cons] at hc; omega)
      simp only [Res.ok_bind, he, reduceCtorEq] at h

/-! non-vacuity: a v2 response with verify, reserve = 2, one metadata pair, a 3-byte body -/

def exFrame : Spec.Frame :=
  { type := 2, verify := 1, gzip := 0, reserve := 2, cmd := 7, rid := 0x01020304, status := 9
    md := [1, 0x61, 1, 0x78], body := [1, 2, 3], nonce := 5, sig := List.replicate 16 0xAA }

theorem exFrame_valid (gz : GzOracle) : ValidFrame .v2 gz exFrame [1, 2, 3] [([0x61], [0x78])] :=
  { type := by decide, verify := by decide, gzip := by decide, reserve := by decide, cmd := by decide
    rid := by decide, timeout := by decide, status := by decide, nonce := by decide, sig := by decide
    body := by decide, mdlen := by decide
    md1 := by intro h; cases h
    md2 := fun _ => C09.decode_complete [([0x61], [0x78])] (by decide)
    gz1 := by intro h; cases h
    gz0 := fun _ => rfl }

example : Spec.encode .v2 exFrame =
    [0x92, 7, 1, 2, 3, 4, 9, 0, 4, 0, 0, 3, 1, 0x61, 1, 0x78, 1, 2, 3, 0, 0, 0, 0, 0, 0, 0, 5] ++ List.replicate 16 0xAA := by
  decide +kernel

example (gz : GzOracle) : unpackBytes .v2 gz 1 (Spec.encode .v2 exFrame) =
    .ok { type := .response, cmd := 7, rid := 0x01020304, status := 9, verify := true, nonce := 5
          signature := List.replicate 16 0xAA, values := [([0x61], [0x78])], codec := 1, body := [1, 2, 3] } := by
  rw [decode_accepts .v2 gz 1 exFrame _ _ (exFrame_valid gz)]; decide

/-- … and a compressed v1 request: the oracle's verdict on the wire body is what the packet carries -/
example : ValidFrame .v1 { compress := fun _ => .err "", read := fun c => if c = [9, 9] then some ([1, 2, 3, 4], true) else none }
    { type := 1, verify := 0, gzip := 1, reserve := 3, cmd := 255, rid := 4294967295, timeout := 65535, body := [9, 9] }
    [1, 2, 3, 4] [] :=
  { type := by decide, verify := by decide, gzip := by decide, reserve := by decide, cmd := by decide
    rid := by decide, timeout := by decide, status := by decide, nonce := by decide, sig := by decide
    body := by decide, md1 := fun _ => ⟨rfl, rfl⟩, mdlen := by decide
    md2 := by intro h; cases h
    gz1 := fun _ => by decide
    gz0 := by intro h; cases h }

/-! ### generated translations of the header codec (T2, function level)

`Gen.Fn.v1_Header_Pack`, `v2_Header_Pack`, `v1_Header_UnpackBytes`, `v2_Header_UnpackBytes` are rewritten from go/v1/header.go and
go/v2/v2_header.go by every run: the buffer allocated by `make`, every `data[idx] = …`, `binary.BigEndian.PutUint16/32`, the running
offset, the type tests, the length guards, every `frame[idx]` and slice — with `panic` where Go would panic. `pack_conforms` and the
decoder theorems are about the model's list-building `Header.pack` / `Header.unpackBytes`; these say they are the same functions. -/

/-- `func (h Header) Pack() ([]byte, error)` of v1 and v2 as translated: the same bytes, the same two errors, and no index or slice
out of range for any header -/
theorem header_pack_is_generated (h : Header) :
    Gen.Fn.v1_Header_Pack (GenFuncs.v1G h) = Header.pack .v1 h ∧ Gen.Fn.v2_Header_Pack (GenFuncs.v2G h) = Header.pack .v2 h :=
  ⟨GenFuncs.v1_header_pack_gen h, GenFuncs.v2_header_pack_gen h⟩

/-- `func (h *Header) UnpackBytes(ctx, frame) (body []byte, err error)` of v1 and v2 as translated, on a fresh (pool-reset) header:
the same header fields, the same rest of the frame, the same errors, and no index or slice out of range for ANY byte string -/
theorem header_unpackBytes_is_generated (frame : Bytes) :
    (Gen.Fn.v1_Header_UnpackBytes {} frame).map (fun p => (GenFuncs.v1M p.1, p.2)) = Header.unpackBytes .v1 frame ∧
    (Gen.Fn.v2_Header_UnpackBytes {} frame).map (fun p => (GenFuncs.v2M p.1, p.2)) = Header.unpackBytes .v2 frame :=
  ⟨GenFuncs.v1_header_unpackBytes_gen frame, GenFuncs.v2_header_unpackBytes_gen frame⟩

/-- non-vacuity: the translated v2 `Pack` on a concrete response header gives the layout's bytes -/
example : Gen.Fn.v2_Header_Pack { type := 2, verify := 1, cmdCode := 7, requestId := 0x01020304, statusCode := 5, metadataLength := 0x0102, bodyLength := 0x030405 }
    = .ok [0x12, 7, 1, 2, 3, 4, 5, 1, 2, 3, 4, 5] := by decide +kernel

/-- the header functions of both versions were inside the translatable subset in this run -/
theorem functions_translated :
    ["v1.Header.IsUnknownPacket", "v1.Header.length", "v1.Header.Pack", "v1.Header.UnpackBytes",
     "v2.Header.length", "v2.Header.Pack", "v2.Header.UnpackBytes"].all (fun f => Gen.Fn.translated.contains f) = true := by decide +kernel

end OAP.C02
