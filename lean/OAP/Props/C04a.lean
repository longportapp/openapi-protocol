/-
C04 (one-shot part) — the one-shot decoder never panics. Property theorems only
(helpers in OAP/Proofs/Frame.lean; the metadata part is C09.decode_total).
-/
import OAP.Proofs.Frame
namespace OAP.C04
open OAP OAP.Frame

/-- `UnpackBytes` never panics: for EVERY byte string, version, codec and gzip oracle the result is a
packet or a returned error. The model's checked index/slice operations yield `.panic` exactly where
Go would; the length guards make every one of them unreachable. -/
theorem unpackBytes_total (v : Ver) (gz : GzOracle) (codec : UInt8) (bs : Bytes) :
    (unpackBytes v gz codec bs).isPanic = false :=
  unpackBytes_noPanic v gz codec bs

/-- the same, as a dichotomy -/
theorem unpackBytes_ok_or_err (v : Ver) (gz : GzOracle) (codec : UInt8) (bs : Bytes) :
    (∃ p, unpackBytes v gz codec bs = .ok p) ∨ (∃ e, unpackBytes v gz codec bs = .err e) :=
  Res.ok_or_err (unpackBytes_noPanic v gz codec bs)

/-- the header decoder alone never panics either -/
theorem header_unpackBytes_total (v : Ver) (bs : Bytes) : (Header.unpackBytes v bs).isPanic = false :=
  Header.unpackBytes_noPanic v bs

/-- the metadata decoder it relies on is total (C09) -/
theorem rawPairs_total (data : Bytes) : (Metadata.rawPairs data).isPanic = false := Metadata.rawPairs_noPanic data

/-! non-vacuity: the guards are really exercised — a header that announces more than is there is an
error, not a panic -/
example (gz : GzOracle) : ∃ e, unpackBytes .v1 gz 0 [0x13, 0, 0xff, 0xff, 0xff] = .err e := by
  refine ⟨"invalid frame", ?_⟩
  rw [unpackBytes_eq, Header.unpackBytes_cons]
  rfl

end OAP.C04
