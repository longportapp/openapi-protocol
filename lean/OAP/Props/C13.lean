/-
C13 — Push dispatch: right handlers, exactly once, in order. Property theorems only (view Dispatch; the close path of the
dispatcher: view DispatchClose; T2 for routing, `IsControl` and the two reader goroutines).
-/
import OAP.Model.Client.Dispatch
import OAP.Model.Client.DispatchClose
import OAP.Gen.Facts
namespace OAP.C13
open OAP.Dispatch

/-- T2 structure facts, regenerated from go/client on every run (the operations themselves, in source order): routing order control → push → response; handlePush calls every subscriber of the command in slice order; the reader's enqueue is non-blocking with a drop branch -/
theorem source_order :
    Gen.seq_client_onPacket = ["c.reconnecting", "c.handleControl", "c.handlePush", "c.handleResponse"] ∧
    Gen.seq_client_handleControl = ["c.handlePing", "c.handlePong", "c.closeByServer", "c.handleResponse"] ∧
    Gen.seq_client_handlePush = ["sub"] ∧
    Gen.seq_tcpConn_addPacket = ["select", "send:conn.packetCh", "default"] ∧
    Gen.seq_wsConn_addPacket = ["select", "send:conn.packetCh", "default"] :=
  ⟨rfl, rfl, rfl, rfl, rfl⟩


/-- T2: the control bound of the code (`IsControl(cmd) = cmd <= 3`) regenerated from go/packet.go -/
theorem control_bound : Gen.protocol_controlMax = 3 := rfl

/-- for EVERY interleaving of the reader (enqueue or overflow-drop-with-warning) and the dispatcher (dequeue and
route): once the queue is drained the handler log is exactly the routing of the accepted packets in arrival order —
each push exactly once to every handler of its command in subscription order — and the only losses are the counted
overflow drops -/
theorem dispatch_spec (cap : Nat) (subs : Nat → List Nat) (acts : List Act) (s : St)
    (h : run cap subs init acts = some s) (hq : s.queue = []) :
    s.log = s.accepted.flatMap (invocations subs) ∧ s.warnings = s.dropped.length ∧
    s.received.length = s.accepted.length + s.warnings :=
  Dispatch.dispatch_spec cap subs acts s h hq

theorem push_to_its_handlers (subs : Nat → List Nat) (p : Pkt) (hc : isControl p = false) (hp : p.type = .push) :
    invocations subs p = (subs p.cmd).map (fun h => (h, p)) := invocations_push subs p hc hp

theorem control_never_to_subscribers (subs : Nat → List Nat) (p : Pkt) (hc : p.cmd ≤ 3) :
    invocations subs p = [] := Dispatch.control_never_to_subscribers subs p hc

theorem response_not_to_subscribers (subs : Nat → List Nat) (p : Pkt) (hp : p.type ≠ .push) :
    invocations subs p = [] := Dispatch.response_not_to_subscribers subs p hp


/-- T2 structure facts: the operation order of the two reader goroutines -/
theorem reader_source :
    Gen.seq_tcpConn_reading = ["conn.closed", "conn.conn.Read", "conn.Close", "conn.readPacket", "conn.Close", "conn.readPacket", "conn.Close"] ∧
    Gen.seq_wsConn_reading = ["conn.closed", "conn.Close", "conn.Close", "conn.readPacket", "conn.Close"] :=
  ⟨rfl, rfl⟩

/-- for EVERY interleaving of reader, dispatcher and `Close`: in every state in which the dispatcher has reported the
close, the handler log is the routing of ALL packets accepted before the close (however many were still queued), in
arrival order, followed by the routing of the packets `x` accepted after the close that the drain loop still caught.
The only accepted packets never delivered are those left in the queue, and they all arrived after the close
(`DispatchClose.late_packet_stranded`: this does happen, without a warning — the permitted loss of C13 has to include
frames decoded after the connection was closed). -/
theorem drained_before_close_report (cap : Nat) (subs : Nat → List Nat) (acts : List DispatchClose.Act)
    (s : DispatchClose.St) (h : DispatchClose.run cap subs DispatchClose.init acts = some s)
    (hf : s.finished = true) :
    ∃ x, s.log = (s.acceptedAtClose ++ x).flatMap (invocations subs) ∧
      s.accepted = s.acceptedAtClose ++ x ++ s.queue ∧ s.lateAccepted = x ++ s.queue :=
  DispatchClose.drained_before_close_report cap subs acts s h hf

/-- once the dispatcher has reported the close, no continuation changes the handler log: no handler runs after the
close report -/
theorem no_delivery_after_finish (cap : Nat) (subs : Nat → List Nat) (acts : List DispatchClose.Act)
    (s s' : DispatchClose.St) (hf : s.finished = true) (h : DispatchClose.run cap subs s acts = some s') :
    s'.finished = true ∧ s'.log = s.log ∧ s'.taken = s.taken :=
  DispatchClose.no_delivery_after_finish cap subs acts s s' hf h

/-- the invariant of the `Dispatch` view holds in every interleaving with close/drain/finish as well -/
theorem dinv_carries_over (cap : Nat) (subs : Nat → List Nat) (acts : List DispatchClose.Act) (s : DispatchClose.St)
    (h : DispatchClose.run cap subs DispatchClose.init acts = some s) : DInv subs (DispatchClose.toDispatch s) :=
  DispatchClose.dinv_carries_over cap subs acts s h

end OAP.C13
