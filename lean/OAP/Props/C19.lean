/-
C19 — Request ids are unique and increasing per connection. Property theorems only.
-/
import OAP.Model.Request
namespace OAP.C19
open OAP.Request

/-- T2 structure facts, regenerated from go/context.go and go/packet.go on every run: the generator is one
atomic add-and-fetch, and the request constructors append the fresh id after the caller's options — to a COPY of the caller's
slice (`opts[:len(opts):len(opts)]`: the append cannot write into spare capacity of a slice that goroutines share; defect D23
of the pinned tree, where concurrent constructors given one shared option slice picked up each other's id) — while the
response/push constructors do not stamp an id. The list model of `Request` (`opts ++ [id]`, a value) is faithful only with that copy. -/
theorem source_structure :
    Gen.stmts_GetRequestIDGen = ["var id uint32", "return func() uint32 { return atomic.AddUint32(&id, 1) }"] ∧
    Gen.stmts_NewRequest = ["opts = append(opts[:len(opts):len(opts)], WithRequestId(ctx.NextReqId()))",
                            "return NewPacket(ctx, RequestPacket, cmd, body, opts...)"] ∧
    Gen.stmts_MustNewRequest.take 2 = ["opts = append(opts[:len(opts):len(opts)], WithRequestId(ctx.NextReqId()))",
                                      "p, e := NewPacket(ctx, RequestPacket, cmd, body, opts...)"] ∧
    Gen.stmts_NewResponse = ["opts = append(opts, WithStatusCode(sc))", "return NewPacket(ctx, ResponsePacket, cmd, body, opts...)"] ∧
    Gen.stmts_MustNewResponse.take 2 = ["opts = append(opts, WithStatusCode(code))", "p, e := NewPacket(ctx, ResponsePacket, cmd, body, opts...)"] ∧
    Gen.stmts_NewPush = ["return NewPacket(ctx, PushPacket, cmd, body, opts...)"] ∧
    Gen.stmts_MustNewPush.take 1 = ["p, e := NewPacket(ctx, PushPacket, cmd, body, opts...)"] :=
  ⟨rfl, rfl, rfl, rfl, rfl, rfl, rfl⟩

private theorem run_spec (sched : List Nat) (g : IdGen) :
    (run g sched).issued = g.issued ++ (List.range' 1 sched.length).map (fun k => g.counter + UInt32.ofNat k) := by
  induction sched generalizing g with
  | nil => simp [run]
  | cons t ts ih =>
    rw [run, ih, List.length_cons, List.range'_succ, ← List.map_add_range' (a := 1) 1]
    simp [IdGen.next, UInt32.ofNat_add, UInt32.add_assoc]

/-- for EVERY schedule of N atomic steps on a fresh context the k-th id handed out is k: the ids are exactly 1..N in issue
order (as uint32: the wrap is stated, not hidden).  A schedule names the goroutine of each step, and only its length matters:
the step is atomic, so `Request.run` does the same whoever takes it -/
theorem ids_concurrent (sched : List Nat) :
    (run {} sched).issued = (List.range' 1 sched.length).map UInt32.ofNat := by
  rw [run_spec]; simp

/-- hence pairwise distinct and strictly increasing in issue order, below the 32-bit wrap -/
theorem ids_increasing (sched : List Nat) (h : sched.length < 4294967296) :
    (run {} sched).issued.Pairwise (· < ·) := by
  rw [ids_concurrent, List.pairwise_map]
  refine List.Pairwise.imp_of_mem ?_ (List.pairwise_lt_range' (s := 1) (n := sched.length))
  intro a b ha hb hab
  simp only [List.mem_range'_1] at ha hb
  rw [UInt32.lt_iff_toNat_lt]
  simp only [UInt32.toNat_ofNat']
  omega

theorem ids_distinct (sched : List Nat) (h : sched.length < 4294967296) : (run {} sched).issued.Nodup :=
  (ids_increasing sched h).imp UInt32.ne_of_lt

/-- caller-supplied options cannot override the fresh id of a request -/
theorem request_id_not_overridable (g : IdGen) (opts : List Opt) :
    (newRequest g opts).1.rid = g.counter + 1 ∧ (newRequest g opts).2.counter = g.counter + 1 := by
  simp [newRequest, newPacket, IdGen.next, List.foldl_append, applyOpt]

/-- response and push constructors leave the id to the caller (default 0) and do not touch the generator -/
theorem response_id_from_caller (code : UInt8) (opts : List Opt) :
    (newResponse code opts).rid = (newPacket opts).rid ∧ (newResponse code opts).status = code := by
  simp [newResponse, newPacket, List.foldl_append, applyOpt]

theorem push_id_from_caller (opts : List Opt) : (newPush opts).rid = (newPacket opts).rid := rfl

/-- the ids a generator hands out depend on the NUMBER of its steps only: two schedules of equal length issue the same ids
(`Request.run` ignores which goroutine takes a step; the model has ONE generator, no two contexts coexist in it) -/
theorem contexts_independent (s₁ s₂ : List Nat) (h : s₁.length = s₂.length) :
    (run {} s₁).issued = (run {} s₂).issued := by
  rw [ids_concurrent, ids_concurrent, h]

example : (run {} [0, 1, 0, 2, 1]).issued = [1, 2, 3, 4, 5] := by decide
example : (newRequest { counter := 41, issued := [] } [.withRequestId 7, .withStatusCode 3]).1.rid = 42 := by decide
example : (newResponse 5 [.withRequestId 7]).rid = 7 := by decide

end OAP.C19
