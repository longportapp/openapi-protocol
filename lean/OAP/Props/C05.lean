/-
C05 — Responses are matched to the right request. Property theorems only.
Every statement is for EVERY reachable state of the Waiters view: any number of concurrent calls, any
order of the peer's answers, duplicated / late / unknown-id responses (all just `dispatch` actions of
arbitrary packets from arbitrary connections at arbitrary times), fail-alls and reconnects.
-/
import OAP.Proofs.Waiters
import OAP.Model.PacketErr
import OAP.Gen.Facts
namespace OAP.C05
open OAP.Waiters

/-- T2 structure facts, regenerated from go/client on every run (the operations themselves, in source order): the waiter table is only touched under its mutex; the dispatcher's hand-off is a non-blocking select/send/default; routing order control → push → response -/
theorem source_order :
    Gen.seq_client_register = ["c.recvsMu.Lock", "c.recvsMu.Unlock"] ∧
    Gen.seq_client_unregister = ["c.recvsMu.Lock", "c.recvsMu.Unlock"] ∧
    Gen.seq_client_handleResponse = ["c.recvsMu.RLock", "defer:c.recvsMu.RUnlock", "select", "send:w.ch", "default"] ∧
    Gen.seq_client_onPacket = ["c.reconnecting", "c.handleControl", "c.handlePush", "c.handleResponse"] :=
  ⟨rfl, rfl, rfl, rfl⟩

/-- a call returns only a response that carries ITS OWN request id … and that arrived on the connection its
request was written to (`own_connection` of DESIGN.md, C05: a stale response of an old connection cannot satisfy a new call
that reuses the id — ids restart on every connection) -/
theorem do_returns_own (s : St) (hs : Reachable s) (i c r : Nat) (p : Pkt)
    (hd : s.call i = .done c r (some p)) : p.rid = r ∧ p.conn = c :=
  (inv_reachable s hs).resOk i c r p (.inr hd)

/-- the slot of a call only ever holds a response addressed to it -/
theorem slot_is_own (s : St) (hs : Reachable s) (i c r : Nat) (p : Pkt)
    (hf : s.chan i = .full p) (hw : s.call i = .written c r ∨ s.call i = .registered c r) : p.rid = r ∧ p.conn = c :=
  (inv_reachable s hs).full i p c r hf hw

/-- FIRST WINS: while a response sits in the call's slot, no other action than the call's own (`start`, `wake`) replaces it: a later
response for the same id (a duplicate, a late answer) leaves the slot as it is. (Once `wake` has emptied the slot, and before the
call finishes, a duplicate is put into it again: the example with tag 44 below.) -/
theorem first_wins (s s' : St) (a : Act) (i : Nat) (p : Pkt) (hst : step s a = some s')
    (hf : s.chan i = .full p) : s'.chan i = .full p ∨ (∃ k, a = .start i k) ∨ a = .wake i := by
  revert hst
  fun_cases step s a <;> rintro ⟨⟩ <;> (try (exact .inl hf))
  -- left: the four transitions that write to a channel.  `start j`, `dispatch` into the empty slot of `j`, `wake j`: the slot
  -- of `i ≠ j` is untouched; `j = i` is the exception named — or, for `dispatch`, impossible: the slot of `i` is not empty.
  -- `failAll` closes empty slots only.
  all_goals (simp only [upd, closeRegistered]; split <;> simp_all)

/-- a response is delivered at most to the one call registered under its id for its connection; every other
call's slot is untouched by a dispatch -/
theorem dispatch_touches_one (s s' : St) (p : Pkt) (hst : step s (.dispatch p) = some s') (j : Nat)
    (hj : s.recvs p.rid ≠ some (j, p.conn)) : s'.chan j = s.chan j := by
  -- not `fun_cases step s (.dispatch p)`: it forgets the action and gives the branches of all of them; `step` is unfolded instead
  simp only [step] at hst
  (repeat' split at hst) <;> cases hst <;> (try rfl)
  -- delivered, to the call `i` with `s.recvs p.rid = some (i, p.conn)`: so `j ≠ i`
  simp only [upd]; split <;> simp_all

/-- ERROR MAPPING: a response with non-zero status is surfaced as a typed error carrying that status and the
code/message of the error body, or the code-500 fallback; status zero is success -/
theorem err_mapping (dec : ErrDecoder) (p : Packet) (hp : p.type = .response) :
    (Packet.err dec p = none ↔ p.status = 0) ∧
    (p.status ≠ 0 → ∃ e, Packet.err dec p = some e ∧ e.status = p.status ∧
      ((∃ c m, dec p.codec p.body = some (c, m) ∧ e.code = c ∧ e.msg = m) ∨
       (dec p.codec p.body = none ∧ e.code = 500 ∧ e.msg = "unknown error, cant unmarshal body"))) := by
  have hs : UInt8.ofNat Gen.protocol_StatusSuccess = 0 := rfl
  unfold Packet.err
  rw [hs]
  simp only [hp, ne_eq, not_true_eq_false, ↓reduceIte]
  by_cases h0 : p.status = 0
  · simp [h0]
  · simp only [h0, ↓reduceIte]
    cases hd : dec p.codec p.body with
    | none => simp [fallbackCode, fallbackMsg]
    | some cm => obtain ⟨c, m⟩ := cm; simp

/-! non-vacuity: the stale-response history (the defect D16 of the pinned tree) — a stale response of connection 0
with id 1 is NOT delivered to the call that reuses id 1 on connection 1 -/
example :
    (run init [.start 7 1, .write 7 true, .failAll, .newConn, .wake 7, .finish 7,   -- call 7 on conn 0 fails
               .start 8 1, .write 8 true,                                   -- call 8 takes id 1 on conn 1
               .dispatch ⟨0, 1, 99⟩,                                      -- stale answer from conn 0
               .dispatch ⟨1, 1, 42⟩, .dispatch ⟨1, 1, 43⟩, .wake 8, .dispatch ⟨1, 1, 44⟩, .finish 8]).map (fun s => (s.call 7, s.call 8))
      = some (.done 0 1 none, .done 1 1 (some ⟨1, 1, 42⟩)) := by
  decide

/-- T2 structure fact shared with C19: the ids of concurrent calls are distinct because the generator is one atomic add-and-fetch
(two calls with one id would overwrite each other's waiter: a lost or mis-routed response) -/
theorem id_generator_atomic :
    Gen.stmts_GetRequestIDGen = ["var id uint32", "return func() uint32 { return atomic.AddUint32(&id, 1) }"] :=
  rfl

end OAP.C05
