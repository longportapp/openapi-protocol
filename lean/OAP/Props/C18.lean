/-
C18 — Handshake codec is a bijection; only registered versions are accepted.
Property theorems only. The facts about the bit expressions are closed by `decide +kernel` over the whole finite table
(256 bytes, or 16 × 16 pairs of 4-bit values) and lifted to `UInt8` by `forall_byte`, `forall_nibbles` (OAP.Base);
`default_registry` is stated as its table over `Fin 256` itself.
-/
import OAP.Model.Handshake
import OAP.Proofs.GenFuncsHs
namespace OAP.C18
open OAP OAP.Handshake

private theorem byte_tab : ∀ b : UInt8,
    Gen.hsPackB0 (Gen.hsVersion b) (Gen.hsCodec b) = b ∧ Gen.hsPackB1 (Gen.hsPlatform b) (Gen.hsReserve b) = b ∧
    Gen.hsVersion b < 16 ∧ Gen.hsCodec b < 16 ∧ Gen.hsPlatform b < 16 ∧ Gen.hsReserve b < 16 :=
  forall_byte (by decide +kernel)

private theorem pair_tab : ∀ {l h : UInt8}, l < 16 → h < 16 →
    Gen.hsVersion (Gen.hsPackB0 l h) = l ∧ Gen.hsCodec (Gen.hsPackB0 l h) = h ∧
    Gen.hsPlatform (Gen.hsPackB1 l h) = l ∧ Gen.hsReserve (Gen.hsPackB1 l h) = h :=
  @forall_nibbles _ (by decide +kernel)   -- `@`: unification finds `P` only while `l`, `h` are still bound

/-- encode ∘ decode = id on every byte pair -/
theorem pack_unpack (a b : UInt8) : (unpack [a, b]).map pack = .ok [a, b] := by
  simp [unpack, Res.map, pack, (byte_tab a).1, (byte_tab b).2.1]

/-- decode ∘ encode = id on the whole 4-bit domain -/
theorem unpack_pack (h : Handshake) (wf : h.WF) : unpack (pack h) = .ok h := by
  obtain ⟨hv, hc, hp, hr⟩ := wf
  simp [unpack, pack, (pair_tab hv hc).1, (pair_tab hv hc).2.1, (pair_tab hp hr).2.2.1, (pair_tab hp hr).2.2.2]

/-- only inputs of exactly two bytes are accepted … -/
theorem unpack_len (bs : Bytes) (h : bs.length ≠ 2) : ∃ e, unpack bs = .err e := by
  match bs, h with
  | [], _ => exact ⟨_, rfl⟩
  | [_], _ => exact ⟨_, rfl⟩
  | [_, _], h => exact absurd rfl h
  | _ :: _ :: _ :: _, _ => exact ⟨_, rfl⟩

/-- … and every two-byte input is accepted, never panics, and yields 4-bit fields -/
theorem unpack_two (a b : UInt8) : ∃ h, unpack [a, b] = .ok h ∧ h.WF := by
  have t0 := (byte_tab a).2.2
  have t1 := (byte_tab b).2.2
  exact ⟨_, rfl, t0.1, t0.2.1, t1.2.2.1, t1.2.2.2⟩

theorem pack_injective_on_WF (h₁ h₂ : Handshake) (w₁ : h₁.WF) (w₂ : h₂.WF)
    (e : pack h₁ = pack h₂) : h₁ = h₂ := by
  have a := unpack_pack h₁ w₁
  have b := unpack_pack h₂ w₂
  rw [e] at a
  rw [a] at b
  exact Res.ok.inj b

theorem unpack_injective (a b c d : UInt8) (e : unpack [a, b] = unpack [c, d]) : [a, b] = [c, d] := by
  have x := pack_unpack a b
  have y := pack_unpack c d
  rw [e] at x
  rw [x] at y
  exact Res.ok.inj y

/-- a context accepts a handshake exactly for a registered version … -/
theorem ctx_handshake_iff (reg : Registry) (c : HsCtx) (h : Handshake) :
    (c.handshake reg h).isOk = reg h.version := by
  unfold HsCtx.handshake getProtocol
  cases reg h.version <;> simp [Res.isOk]

/-- … and then adopts its version, codec and platform -/
theorem ctx_handshake_adopts (reg : Registry) (c c' : HsCtx) (h : Handshake)
    (e : c.handshake reg h = .ok c') :
    c'.version = h.version ∧ c'.codec = h.codec ∧ c'.platform = h.platform ∧ c'.handshaked = true := by
  unfold HsCtx.handshake getProtocol at e
  cases hr : reg h.version <;> simp [hr] at e
  subst e; simp

theorem getProtocol_unregistered (reg : Registry) (v : UInt8) (h : reg v = false) :
    ∃ e, getProtocol reg v = .err e := by
  simp [getProtocol, h]

/-- with v1 and v2 imported the registered versions are exactly 1 and 2 -/
theorem default_registry : ∀ v : Fin 256,
    defaultRegistry (UInt8.ofFin v) = (v.val == 1 || v.val == 2) := by
  decide +kernel

/-! non-vacuity: a concrete non-trivial handshake meets the hypotheses -/
example : ({ version := 2, codec := 1, platform := 9, reserve := 5 } : Handshake).WF := by decide
example : unpack (pack { version := 2, codec := 1, platform := 9, reserve := 5 })
    = .ok { version := 2, codec := 1, platform := 9, reserve := 5 } := by decide
example : pack { version := 1, codec := 1, platform := 9, reserve := 0 } = [0x11, 0x09] := by decide

/-! ### the model IS the code's function: generated translations (T2, function level)

`Gen.Fn.protocol_Handshake_Pack` / `_Unpack` are rewritten from go/protocol.go by every run (statement by statement: the two
byte expressions, the length test, the four masked field assignments with their index operations); the theorems above are about
`Handshake.pack` / `Handshake.unpack`, and these two say they are the same functions. -/

/-- `func (h Handshake) Pack() []byte`, as translated from the source, is the model's `pack` -/
theorem pack_is_generated (h : Handshake) :
    Gen.Fn.protocol_Handshake_Pack (GenFuncs.hsG h) = .ok (pack h) :=
  GenFuncs.handshake_pack_gen h

/-- `func (h *Handshake) Unpack(data []byte) error`, as translated from the source (whatever the receiver held before), is the
model's `unpack`: same verdict, same error, same four fields, no index out of range -/
theorem unpack_is_generated (g0 : Gen.Fn.GHandshake) (data : Bytes) :
    (Gen.Fn.protocol_Handshake_Unpack g0 data).map GenFuncs.hsM = unpack data :=
  GenFuncs.handshake_unpack_gen g0 data

/-- hence the bijection theorems hold of the translated functions themselves -/
theorem generated_unpack_pack (h : Handshake) (g0 : Gen.Fn.GHandshake) (hw : h.WF) :
    (Gen.Fn.protocol_Handshake_Pack (GenFuncs.hsG h)).bind (fun bs => (Gen.Fn.protocol_Handshake_Unpack g0 bs).map GenFuncs.hsM) = .ok h := by
  rw [pack_is_generated]; show (Gen.Fn.protocol_Handshake_Unpack g0 (pack h)).map GenFuncs.hsM = .ok h
  rw [unpack_is_generated]; exact unpack_pack h hw

/-- both handshake functions were inside the translatable subset in this run (a function that leaves it disappears from the list) -/
theorem functions_translated :
    "protocol.Handshake.Pack" ∈ Gen.Fn.translated ∧ "protocol.Handshake.Unpack" ∈ Gen.Fn.translated := by decide

end OAP.C18
