/-
C04 — Decoders are total and resource-safe on arbitrary bytes. Property theorems only.
Totality = the modelled panics (index / slice out of range, integer division by zero, nil map …) are
unreachable for EVERY input; termination is part of every definition being accepted by Lean
(structural or well-founded recursion on the remaining bytes).
The one-shot frame decoder's and the streaming decoder's theorems live in OAP/Props/C04a.lean and
OAP/Props/C04b.lean.
-/
import OAP.Props.C09
import OAP.Props.C10
import OAP.Model.Handshake
import OAP.Model.PacketErr
namespace OAP.C04
open OAP

/-- handshake decode: any byte string gives a value or an error. True by the shape of the model (`Handshake.unpack` is a match
on the length of the list, without a `.panic` arm); that Go's two index operations are in range is `C18.unpack_is_generated`:
the translated function has them and equals this one -/
theorem handshake_total (bs : Bytes) : (Handshake.unpack bs).isPanic = false := by
  unfold Handshake.unpack; split <;> rfl

/-- metadata block decode: any byte string gives pairs or an error, and the loop terminates -/
theorem metadata_total (lower : Bytes → Bytes) (data : Bytes) :
    (Metadata.unmarshalValues lower data).isPanic = false := by
  have := C09.decode_total data
  unfold Metadata.unmarshalValues
  cases h : Metadata.rawPairs data <;> simp_all [Res.map, Res.isPanic]

/-- the metadata decoder returns no more data than it was given (its allocations are bounded by the input) -/
theorem metadata_bounded (data : Bytes) (ps : List Metadata.Pair) (h : Metadata.rawPairs data = .ok ps) :
    (Metadata.encPairs ps).length = data.length := by
  rw [(C09.decode_canonical data ps h).1]

/-- gzip decode: a result or an error — by construction of the oracle model: `Gzip.decompress` maps what `gz.read` returns to
`.ok` or `.err`; a panic inside compress/gzip is outside the model (the harness runs the real `Decompress` under `recover`) -/
theorem gzip_total (gz : GzOracle) (bs : Bytes) : (Gzip.decompress gz bs).isPanic = false := by
  unfold Gzip.decompress; split <;> rfl

/-- gzip decode: the buffer requested is bounded by the input supplied (× 1032) + 512, never by the ISIZE field alone -/
theorem gzip_alloc_bounded (bs : Bytes) : Gzip.allocDecompress bs ≤ bs.length * 1032 + 512 := C10.alloc_gzip bs

/-- typed error extraction never fails: success for non-responses and status 0, otherwise a typed error with
that status and either the decoded code/message or the code-500 fallback -/
theorem err_total (dec : ErrDecoder) (p : Packet) :
    (Packet.err dec p = none ↔ (p.type ≠ .response ∨ p.status = 0)) ∧
    (∀ e, Packet.err dec p = some e → e.status = p.status ∧
      ((∃ c m, dec p.codec p.body = some (c, m) ∧ e.code = c ∧ e.msg = m) ∨
       (dec p.codec p.body = none ∧ e.code = 500 ∧ e.msg = "unknown error, cant unmarshal body"))) := by
  have hs : UInt8.ofNat Gen.protocol_StatusSuccess = 0 := rfl
  unfold Packet.err
  rw [hs]
  by_cases ht : p.type ≠ .response
  · simp [ht]
  · by_cases h0 : p.status = 0
    · simp [h0]
    · simp only [ht, ↓reduceIte, h0]
      cases hd : dec p.codec p.body with
      | none => simp [fallbackCode, fallbackMsg]
      | some cm => obtain ⟨c, m⟩ := cm; simp

end OAP.C04
