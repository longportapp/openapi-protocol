/-
C11 — Encoding/decoding depends only on the frame: no state leaks. Two parts: HISTORIES of operations executed one after the other on
the world of pooled headers and connection contexts (model OAP/Model/World.lean), then the same under step-by-step INTERLEAVING of
concurrent calls (model OAP/Model/Pool.lean with its instances PoolHeader, PoolGzip).
-/
import OAP.Model.World
import OAP.Model.PoolHeader
import OAP.Model.PoolGzip
namespace OAP.C11
open OAP.Frame OAP.World

/-- T2 facts regenerated from the source: every field of the header structs is reset in headerPool.Get -/
theorem every_field_reset :
    Gen.v1HeaderFields.all (fun f => Gen.v1HeaderResets.contains f) = true ∧
    Gen.v1HeaderFields.all (fun f => Gen.v2HeaderResets.contains f) = true ∧
    Gen.v2HeaderResets.contains "MetadataLength" = true ∧
    Gen.v2HeaderFields = ["MetadataLength", "embed:v1.Header"] ∧
    Gen.v1HeaderFields = ["BeginUnpack", "BodyLength", "CmdCode", "Gzip", "IsUnpacked", "RequestId", "Reserve",
                          "StatusCode", "Timeout", "Type", "Verify"] := by
  decide +kernel

/-- a header recycled with ARBITRARY stale content leaves the pool as the zero header -/
theorem get_fresh (stale : Header) :
    poolGet .v1 { stale with metadataLength := 0 } = zero ∧ poolGet .v2 stale = zero :=
  ⟨PoolHeader.poolGet_zero .v1 stale, PoolHeader.poolGet_zero .v2 stale⟩

/-- an empty pool hands out a new (zero) header, any other a recycled one after its resets -/
private theorem take_fresh (w : W) (v : Ver) : (take w v).1 = zero := by
  cases v <;> simp only [take] <;> split
  · rfl
  · exact PoolHeader.poolGet_zero .v1 _
  · rfl
  · exact PoolHeader.poolGet_zero .v2 _

private theorem takeIfNone_fresh (w : W) (v : Ver) (p : Option Header) : (takeIfNone w v p).1 = zero := by
  unfold takeIfNone; split
  · rfl
  · exact take_fresh w v

/-- the result of any operation in any world — whatever stale headers the pools contain, whatever other connections
are in the middle of — equals the result of the same operation performed in isolation on the connection's own state -/
theorem step_isolated (gz : GzOracle) (w : W) (op : Op) :
    (step gz w op).1 = isolated gz (w.ctxs op.ctx) op := by
  cases op with
  | pack c v p thr => simp [step, isolated, take_fresh w v]
  | unpackBytes c v codec bs => simp [step, isolated, take_fresh w v]
  | feed c v codec chunk => simp [step, isolated, Op.ctx, takeIfNone_fresh]

@[simp] private theorem take_ctxs (w : W) (v : Ver) : (take w v).2.ctxs = w.ctxs := by
  cases v <;> simp only [take] <;> split <;> rfl
@[simp] private theorem put_ctxs (w : W) (v : Ver) (h : Header) : (put w v h).ctxs = w.ctxs := by
  cases v <;> rfl
@[simp] private theorem takeIfNone_ctxs (w : W) (v : Ver) (p : Option Header) : (takeIfNone w v p).2.ctxs = w.ctxs := by
  cases p <;> simp [takeIfNone]
@[simp] private theorem putIfNone_ctxs (w : W) (v : Ver) (p : Option Header) (h : Header) : (putIfNone w v p h).ctxs = w.ctxs := by
  cases p <;> simp [putIfNone]

/-- the effect of an operation on the connection states is `ctxStep`: independent of the pools -/
theorem step_ctxs (gz : GzOracle) (w : W) (op : Op) : (step gz w op).2.ctxs = ctxStep gz w.ctxs op := by
  cases op with
  | pack c v p thr => simp [step, ctxStep]
  | unpackBytes c v codec bs => simp [step, ctxStep]
  | feed c v codec chunk => simp [step, ctxStep, setCtx, takeIfNone_fresh]

/-- HISTORIES: every result of every interleaved history of encode / one-shot decode / streaming operations over
any number of connections, starting from pools with arbitrary stale content, is the isolated result: the history's
outputs are a function of the connections' own states only -/
theorem run_isolated (gz : GzOracle) : ∀ (ops : List Op) (w : W), (run gz w ops).1 = isoRun gz w.ctxs ops := by
  intro ops
  induction ops with
  | nil => intro w; simp [run, isoRun]
  | cons op ops ih =>
    intro w
    simp only [run, isoRun]
    rw [ih, step_isolated, step_ctxs]

/-- results on connection c are unaffected by operations on other connections: `ctxStep` of an operation on c' ≠ c
leaves c's state alone, and one-shot operations leave every state alone (also after failures) -/
theorem ctxStep_local (gz : GzOracle) (ctxs : Nat → Option Header × Ring) (op : Op) (c : Nat)
    (h : c ≠ op.ctx ∨ (∀ c' v codec ch, op ≠ .feed c' v codec ch)) : ctxStep gz ctxs op c = ctxs c := by
  cases op with
  | pack c0 v p thr => rfl
  | unpackBytes c0 v codec bs => rfl
  | feed c' v codec chunk =>
    have hc : c ≠ c' := by
      rcases h with h | h
      · exact h
      · exact absurd rfl (h c' v codec chunk)
    simp [ctxStep, hc]

/-- one-shot operations (encode, one-shot decode) never touch any connection's state — in particular not the header
parked by an incomplete streaming decode on the SAME connection — and a streaming step touches only its own connection -/
theorem step_other_ctx (gz : GzOracle) (w : W) (op : Op) (c' : Nat)
    (h : c' ≠ op.ctx ∨ (∀ c v codec ch, op ≠ .feed c v codec ch)) :
    (step gz w op).2.ctxs c' = w.ctxs c' := by
  rw [step_ctxs]; exact ctxStep_local gz w.ctxs op c' h

/-! non-vacuity: a pool holding a dirty response header; a push decoded next inherits nothing -/
example : (step ⟨fun _ => .err "no-oracle", fun _ => none⟩
      ⟨[{ requestId := 99, statusCode := 5, type := 2, isUnpacked := true }], [], fun _ => (none, Ring.new 4)⟩
      (.unpackBytes 0 .v1 1 [0x03, 0x07, 0x00, 0x00, 0x00])).1
    = .decoded (.ok { type := .push, cmd := 7, codec := 1 }) := by
  rw [step_isolated]; decide

/-! ## concurrent use of the pooled headers and gzip objects (Pool view)

`run_isolated` above is about HISTORIES: operations executed one after the other, each atomically. Here the operations
of N goroutines are INTERLEAVED step by step (take from the pool / reset / field updates, writes, reads / put back or
drop; a streaming decoder parks its header in its connection between two calls): model `OAP.Pool`, instances
`PoolHeader.HB` (v1 / v2 `headerPool`), `PoolGzip.WB`, `PoolGzip.RB` (the two gzip pools). -/
open OAP.Pool

/-- the hypothesis the gzip instances ASSUME of compress/gzip's `Reset` is PROVED for the header pools, from the
regenerated lists of reset statements (`every_field_reset`, `get_fresh`): after `headerPool.Get` nothing of the
header's previous content is left, in both versions -/
theorem header_reset_erases (v : Ver) : (PoolHeader.HB v).ResetErases ∧ ∀ stale, (PoolHeader.HB v).reset stale () = zero :=
  ⟨PoolHeader.reset_erases v, PoolHeader.HB_reset v⟩

/-- N goroutines encoding / decoding over the shared header pool, every interleaving, every initial pool content
(arbitrary stale headers): (1) a call that has just taken its header holds the ZERO header; (2) a header being worked
on, or PARKED in a connection by an incomplete streaming decode, contains exactly its owner's updates of the zero
header; (3) so does the header a finished call ended with; (4) no two calls hold the same header, a held or parked
header is not in the pool, the pool holds no header twice -/
theorem header_concurrent_isolated (v : Ver) (pool : List Nat) (obj : Nat → Header) (next : Nat)
    (h0 : InitOk pool next) (acts : List (Act Unit (Header → Header))) (s : St Header Unit (Header → Header) Header)
    (h : Pool.run (PoolHeader.HB v) (Pool.init pool obj next) acts = some s) :
    (∀ t o, s.pc t = .run o () [] → s.obj o = zero) ∧
    (∀ t o fs, s.pc t = .run o () fs ∨ s.pc t = .parked o () fs → s.obj o = fs.foldl (fun h f => f h) zero) ∧
    (∀ t fs out, s.pc t = .fin () fs out → out = fs.foldl (fun h f => f h) zero) ∧
    (∀ t u o, t ≠ u → (s.pc t).holds = some o → (s.pc u).holds ≠ some o) ∧
    (∀ t o, (s.pc t).holds = some o → o ∉ s.pool) ∧ s.pool.Nodup := by
  have i := inv_reach (PoolHeader.HB v) (PoolHeader.reset_erases v) pool obj next h0 acts s h
  have hn := no_shared_object (PoolHeader.HB v) (PoolHeader.reset_erases v) pool obj next h0 acts s h
  refine ⟨fun t o hp => ?_, fun t o fs hp => ?_, fun t fs out hf => ?_, hn⟩
  · rw [i.heldState t o () [] (.inl hp), PoolHeader.HB_seq]; rfl
  · rw [i.heldState t o () fs hp, PoolHeader.HB_seq]
  · rw [i.finOut t () fs out hf, Beh.seqResult, PoolHeader.HB_seq]; rfl

/-- No state leaks between CONCURRENT calls, through the pooled headers or the pooled gzip
objects. For every interleaving and every initial content of the pool concerned:
 * headers — the result expressions of the sequential world model (`World.step`: the pure function if the header
   handed out is zero, a panic otherwise; written out again in the statement — their text is the only link to
   `World.step`), evaluated on the header a concurrent Pack / UnpackBytes / Unpack call has just taken, ARE the
   isolated results (`pack`, `unpackBytes`, `unpackRing` on the connection's own state);
 * compressors — a finished `Compress(x)` returned `gz.compress x`;
 * decompressors — a `Decompress(src)` that ran to its end returned `Gzip.decompress gz src`.
Each is a function of the call's own arguments: not of the schedule, the other calls, or what the pool contained. -/
theorem concurrent_isolated (gz : GzOracle) :
    (∀ (v : Ver) (pool : List Nat) (obj : Nat → Header) (next : Nat), InitOk pool next →
      ∀ (acts : List (Act Unit (Header → Header))) (s : St Header Unit (Header → Header) Header),
      Pool.run (PoolHeader.HB v) (Pool.init pool obj next) acts = some s →
      ∀ t o, s.pc t = .run o () [] →
        (∀ p thr, (if s.obj o = zero then pack v gz p thr else .panic "pool returned a dirty header") = pack v gz p thr) ∧
        (∀ codec bs, (if s.obj o = zero then unpackBytes v gz codec bs else .panic "pool returned a dirty header") =
          unpackBytes v gz codec bs) ∧
        (∀ codec pend rb, (if s.obj o = zero then unpackRing v gz codec pend rb
            else ({ res := .panic "pool returned a dirty header", pend := none, rb := rb } : SOut)) =
          unpackRing v gz codec pend rb)) ∧
    (∀ (pool : List Nat) (obj : Nat → Bytes) (next : Nat), InitOk pool next →
      ∀ (acts : List (Act Unit Bytes)) (s : St Bytes Unit Bytes (Res Bytes)),
      Pool.run (PoolGzip.WB gz) (Pool.init pool obj next) acts = some s →
      ∀ t x out, s.pc t = .fin () [x] out → out = gz.compress x) ∧
    (∀ (pool : List Nat) (obj : Nat → PoolGzip.RState) (next : Nat), InitOk pool next →
      ∀ (acts : List (Act Bytes Nat)) (s : St PoolGzip.RState Bytes Nat (Res Bytes)),
      Pool.run (PoolGzip.RB gz) (Pool.init pool obj next) acts = some s →
      ∀ t src ns out, s.pc t = .fin src ns out → PoolGzip.Done gz src ns → out = Gzip.decompress gz src) :=
  ⟨fun v pool obj next h0 acts s h t o hp => by
     simp [(header_concurrent_isolated v pool obj next h0 acts s h).1 t o hp],
   fun pool obj next h0 acts s h => (PoolGzip.compress_concurrent_eq_seq gz pool obj next h0 acts s h).1,
   fun pool obj next h0 acts s h => (PoolGzip.decompress_concurrent_eq_seq gz pool obj next h0 acts s h).2.1⟩

/-- the same as a statement about TWO runs: the same call (same input, same uses) finished in any two interleavings,
among any other calls, over any two initial pools, has returned the same result — for every pooled object whose
`Reset` erases -/
theorem concurrent_schedule_independent {σ In U Out : Type} (B : Beh σ In U Out) (he : B.ResetErases)
    (pool pool' : List Nat) (obj obj' : Nat → σ) (next next' : Nat) (h0 : InitOk pool next) (h0' : InitOk pool' next')
    (acts acts' : List (Act In U)) (s s' : St σ In U Out)
    (h : Pool.run B (Pool.init pool obj next) acts = some s) (h' : Pool.run B (Pool.init pool' obj' next') acts' = some s')
    (t t' : Nat) (i : In) (us : List U) (out out' : Out)
    (hf : s.pc t = .fin i us out) (hf' : s'.pc t' = .fin i us out') : out = out' := by
  rw [pool_exclusive B he pool obj next h0 acts s h t i us out hf, pool_exclusive B he pool' obj' next' h0' acts' s' h' t' i us out' hf']

/-- non-vacuity: the demo interleaving of `PoolHeader` — two dirty headers in the pool, a streaming decode that parks
its header while a Pack and a one-shot decode run, a fourth call recycling a header the Pack left request id 7 in —
is a run of both versions' instances, and every call ends with the zero header plus its own updates -/
example : ∀ v : Ver,
    (Pool.run (PoolHeader.HB v) PoolHeader.demoInit PoolHeader.demoActs).map (fun s => ((s.pc 0).out?, (s.pc 1).out?, (s.pc 3).out?)) =
      some (some { type := 3, isUnpacked := true }, some { requestId := 7 }, some {}) := by
  intro v; cases v <;> decide

end OAP.C11
