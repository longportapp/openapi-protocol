/-
C03 — Stream reassembly is independent of segmentation and buffer geometry, in five layers (the section headings below); last,
the streaming decoders as translated from the Go source are the functions all this is about.
Helpers: OAP/Proofs/Ring.lean, Stream.lean, StreamRing.lean, StreamComplete.lean, Reading.lean; each lists at its head the
definitions the statements here use (`unpackAbs`, `Parked`, `PendOK`, `unread`, `run`, `drain`, `feed`, `rfeed`, …).
-/
import OAP.Model.Ring
import OAP.Model.Stream
import OAP.Proofs.Ring
import OAP.Proofs.StreamRing
import OAP.Proofs.StreamComplete
import OAP.Proofs.Reading
import OAP.Props.C02
import OAP.Proofs.GenFuncsStream
import OAP.Proofs.GenFuncsUnpack
namespace OAP.C03
open OAP OAP.Frame

/-! ### Layer 1: the ring buffer is a byte queue -/

/-- `Length()` is the number of queued bytes -/
theorem ring_length (rb : Ring) (h : rb.WF) : rb.length = rb.abs.length := Ring.length_abs rb h

/-- `Peek(n)`: the two slices, concatenated, are the first `n` queued bytes — wherever the wrap falls -/
theorem ring_peek (rb : Ring) (h : rb.WF) (n : Nat) : (rb.peek n).1 ++ (rb.peek n).2 = rb.abs.take n :=
  Ring.peek_abs rb h n

/-- `Retrieve(n)` drops `n` bytes from the front and keeps the representation invariant -/
theorem ring_retrieve (rb : Ring) (h : rb.WF) (n : Nat) :
    (rb.retrieve n).WF ∧ (rb.retrieve n).abs = rb.abs.drop n := Ring.retrieve_spec rb h n

/-- `Write(p)` appends `p` — including the split copy across the end of the buffer and the growth path -/
theorem ring_write (rb : Ring) (h : rb.WF) (p : Bytes) :
    (rb.write p).WF ∧ (rb.write p).abs = rb.abs ++ p := Ring.write_spec rb h p

/-- the constructors establish the invariant -/
theorem ring_new (n : Nat) : (Ring.new n).WF ∧ (Ring.new n).abs = [] :=
  ⟨(Ring.Holds.new n).wf, (Ring.Holds.new n).abs⟩

theorem ring_newWithData (d : Bytes) : (Ring.newWithData d).WF ∧ (Ring.newWithData d).abs = d :=
  ⟨(Ring.Holds.newWithData d).wf, (Ring.Holds.newWithData d).abs⟩

/-- `Read(p)` with `len(p) = n > 0` on a ring holding at least one byte returns the first `n`
queued bytes (fewer if fewer are queued) and drops them. The precondition `0 < rb.length` is the
precise one: it implies the ring is not flagged empty and has positive capacity. -/
theorem read_spec (rb : Ring) (h : rb.WF) (n : Nat) (hn : 0 < n) (hl : 0 < rb.length) :
    ∃ rb', rb.read n = .ok (rb.abs.take n, rb') ∧ rb'.WF ∧ rb'.abs = rb.abs.drop n :=
  Ring.read_spec rb h n hn hl

/-- `Read` of an empty slice is a no-op -/
theorem read_zero (rb : Ring) : rb.read 0 = .ok ([], rb) := Ring.read_zero rb

/-- `Read` on a ring flagged empty is `ErrIsEmpty` (an error, not a panic) -/
theorem read_empty (rb : Ring) (n : Nat) (hn : 0 < n) (he : rb.isEmpty = true) :
    ∃ e, rb.read n = .err e := ⟨_, Ring.read_empty rb n hn he⟩

/-- the one `.panic` arm of `Ring.read` (Go: `% r.size`): a zero-capacity ring that is flagged non-empty, as `NewWithData(nil)` makes it -/
example : (Ring.newWithData []).WF ∧ (Ring.newWithData []).read 1 = .panic "integer divide by zero" :=
  ⟨(ring_newWithData []).1, rfl⟩

/-- `PeekAll()`: the two slices concatenated are the whole queue -/
theorem peekAll_abs (rb : Ring) (h : rb.WF) : (rb.peekAll).1 ++ (rb.peekAll).2 = rb.abs :=
  Ring.peekAll_abs rb h

/-- `PeekUint8()`: the first queued byte -/
theorem peekUint8_spec (rb : Ring) (h : rb.WF) (a : UInt8) (t : Bytes) (habs : rb.abs = a :: t) :
    rb.peekUint8 = .ok a := by rw [(Ring.Holds.mk h habs).peekUint8]; rfl

/-- `PeekUint16()`: big-endian over the first two queued bytes, wherever the wrap falls -/
theorem peekUint16_spec (rb : Ring) (h : rb.WF) (a b : UInt8) (t : Bytes) (habs : rb.abs = a :: b :: t) :
    rb.peekUint16 = .ok (rd16 a b) := by rw [(Ring.Holds.mk h habs).peekUint16]; rfl

theorem peekUint32_spec (rb : Ring) (h : rb.WF) (a b c d : UInt8) (t : Bytes)
    (habs : rb.abs = a :: b :: c :: d :: t) : rb.peekUint32 = .ok (rd32 a b c d) := by
  rw [(Ring.Holds.mk h habs).peekUint32]; rfl

theorem peekUint64_spec (rb : Ring) (h : rb.WF) (a b c d e f g i : UInt8) (t : Bytes)
    (habs : rb.abs = a :: b :: c :: d :: e :: f :: g :: i :: t) :
    rb.peekUint64 = .ok (rd64 a b c d e f g i) := by rw [(Ring.Holds.mk h habs).peekUint64]; rfl

/-- the `PeekUintN` methods are total: on a short ring they return 0, never panic -/
theorem peekUint_total (rb : Ring) (h : rb.WF) :
    rb.peekUint8 = .ok (Q.u8 rb.abs) ∧ rb.peekUint16 = .ok (Q.u16 rb.abs) ∧
    rb.peekUint32 = .ok (Q.u32 rb.abs) ∧ rb.peekUint64 = .ok (Q.u64 rb.abs) :=
  ⟨h.holds.peekUint8, h.holds.peekUint16, h.holds.peekUint32, h.holds.peekUint64⟩

/-! non-vacuity: a wrapped ring (r = 3, w = 1 in a buffer of 4) -/
example : (⟨[5, 0, 0, 4], 4, 3, 1, false⟩ : Ring).abs = [4, 5] := by decide
example : (⟨[5, 0, 0, 4], 4, 3, 1, false⟩ : Ring).peek 2 = ([4], [5]) := by decide
example : (⟨[5, 0, 0, 4], 4, 3, 1, false⟩ : Ring).WF := by constructor <;> decide
example : (⟨[5, 0, 0, 4], 4, 3, 1, false⟩ : Ring).peekUint16 = .ok 0x0405 := by decide
example : ((⟨[5, 0, 0, 4], 4, 3, 1, false⟩ : Ring).read 2).toOption.map (·.1) = some [4, 5] := by decide

/-! ### Layer 2: one decoder call over the ring = one call over the queue, for every geometry -/

/-- GEOMETRY INDEPENDENCE. For every well-formed ring — any capacity, any read/write offsets, any
wrap position, hence every way a multi-byte field or the body can straddle the end of the buffer —
and for ANY parked header (not only reachable ones), `protocolVx.Unpack` over the ring returns the
result of the abstract decoder over the queued bytes, parks the same header, and leaves a
well-formed ring holding exactly the abstract decoder's remaining queue. -/
theorem unpackRing_eq_abs (v : Ver) (gz : GzOracle) (codec : UInt8) (pend : Option Header) (rb : Ring)
    (wf : rb.WF) :
    let o := unpackRing v gz codec pend rb
    let a := unpackAbs v gz codec pend rb.abs
    o.res = a.1 ∧ o.pend = a.2.1 ∧ o.rb.WF ∧ o.rb.abs = a.2.2 :=
  Frame.unpackRing_eq_abs v gz codec pend rb wf

/-- corollary: two rings holding the same bytes are indistinguishable to the decoder -/
theorem unpackRing_geometry (v : Ver) (gz : GzOracle) (codec : UInt8) (pend : Option Header)
    (rb₁ rb₂ : Ring) (wf₁ : rb₁.WF) (wf₂ : rb₂.WF) (h : rb₁.abs = rb₂.abs) :
    (unpackRing v gz codec pend rb₁).res = (unpackRing v gz codec pend rb₂).res ∧
    (unpackRing v gz codec pend rb₁).pend = (unpackRing v gz codec pend rb₂).pend ∧
    (unpackRing v gz codec pend rb₁).rb.abs = (unpackRing v gz codec pend rb₂).rb.abs := by
  have e := (unpackRing_refines v gz codec pend (⟨wf₁, h⟩ : rb₁.Holds rb₂.abs)).eq.symm.trans
    (unpackRing_refines v gz codec pend wf₂.holds).eq
  simp only [Prod.mk.injEq] at e
  exact e

/-- the parked-header invariant (`PendOK v pend`: the header is one the decoder itself parks after
consuming some prefix of a frame) holds initially … -/
theorem pend_ok_none (v : Ver) : PendOK v none := pendOK_none v

/-- … and is preserved by every call -/
theorem pend_ok_preserved (v : Ver) (gz : GzOracle) (codec : UInt8) (pend : Option Header) (rb : Ring)
    (wf : rb.WF) (hp : PendOK v pend) : PendOK v (unpackRing v gz codec pend rb).pend := by
  rw [(Frame.unpackRing_eq_abs v gz codec pend rb wf).2.1]
  exact pendOK_preserved v gz codec pend rb.abs hp

/-! non-vacuity: a v1 push frame `03 07 000002 09 08` in a ring of 8 with r = 5, w = 4: the 3-byte
body length straddles the end of the buffer (1 byte before the wrap, 2 after) -/
private def gz0 : GzOracle := ⟨fun _ => .err "none", fun _ => none⟩
private def wrapped : Ring := ⟨[0, 2, 9, 8, 0, 3, 7, 0], 8, 5, 4, false⟩
example : wrapped.WF := by constructor <;> decide
example : wrapped.abs = [3, 7, 0, 0, 2, 9, 8] := by decide
example : ((wrapped.retrieve 2).peek 3) = ([0], [0, 2]) := by decide
example : (unpackRing .v1 gz0 0 none wrapped).res = .pkt { type := .push, cmd := 7, body := [9, 8] } := by
  decide
example : (unpackRing .v1 gz0 0 none wrapped).rb.abs = [] := by decide
example : unpackAbs .v1 gz0 0 none [3, 7, 0, 0, 2, 9, 8] =
    (.pkt { type := .push, cmd := 7, body := [9, 8] }, none, []) := by decide

/-! ### Layer 3: chunking independence -/

/-- KEY LAW: a call depends only on the undelivered bytes. `Parked v pend u` says that `pend` is the
header parked after consuming the bytes `u` of the current frame; then resuming with queue `q`
is decoding `u ++ q` from scratch. -/
theorem unpack_unread (v : Ver) (gz : GzOracle) (codec : UInt8) (pend : Option Header) (u q : Bytes)
    (hp : Parked v pend u) :
    unpackAbs v gz codec pend q = unpackAbs v gz codec none (u ++ q) :=
  Frame.unpack_unread v gz codec pend u q hp

/-- a packet consumes at least a whole header of the stream -/
theorem unpack_pkt_lt (v : Ver) (gz : GzOracle) (codec : UInt8) (u : Bytes) (k : Packet)
    (p' : Option Header) (r : Bytes) (h : unpackAbs v gz codec none u = (.pkt k, p', r)) :
    r.length + pushLen v ≤ u.length := Frame.unpack_pkt_lt v gz codec u k p' r h

/-- appending bytes never changes a decision already made (a packet or an error) -/
theorem unpack_append_pkt (v : Ver) (gz : GzOracle) (codec : UInt8) (u c : Bytes) (s : SRes)
    (p' : Option Header) (r : Bytes) (h : unpackAbs v gz codec none u = (s, p', r)) (hs : s ≠ .more) :
    unpackAbs v gz codec none (u ++ c) = (s, p', r ++ c) := Frame.unpack_append v gz codec u c h hs

/-- a "need more data" result leaves the undelivered stream unchanged -/
theorem unpack_more_unread (v : Ver) (gz : GzOracle) (codec : UInt8) (u : Bytes) (p' : Option Header)
    (q' : Bytes) (h : unpackAbs v gz codec none u = (.more, p', q')) :
    ∃ u', Parked v p' u' ∧ u' ++ q' = u := Frame.unpack_more_unread v gz codec u p' q' h

/-- the same laws with the undelivered stream as a FUNCTION of the state: `unread v pend q` is the
parked header re-encoded by the codec's own `Header.Pack` (nothing / byte 0 / the whole header),
followed by the queue. `PendOK v pend` ↔ `Parked v pend (s_hdrBytes v pend)`. -/
theorem unpack_unread_fn (v : Ver) (gz : GzOracle) (codec : UInt8) (pend : Option Header) (q : Bytes)
    (hp : PendOK v pend) :
    unpackAbs v gz codec pend q = unpackAbs v gz codec none (unread v pend q) :=
  Frame.unpack_unread v gz codec pend _ q ((parked_iff v pend).mp hp)

theorem unpack_more_unread_fn (v : Ver) (gz : GzOracle) (codec : UInt8) (pend : Option Header) (q : Bytes)
    (hp : PendOK v pend) (hm : (unpackAbs v gz codec pend q).1 = .more) :
    unread v (unpackAbs v gz codec pend q).2.1 (unpackAbs v gz codec pend q).2.2 = unread v pend q := by
  rw [unpack_unread_fn v gz codec pend q hp] at hm ⊢
  obtain ⟨u', hu', he⟩ := Frame.unpack_more_unread v gz codec (unread v pend q) _ _ (Prod.ext hm rfl)
  rw [unread, parked_hdrBytes v _ u' hu', he]

/-- by-product: `Header.Pack` inverts the streaming header decoder on every complete header -/
theorem pack_inverts_stream_header (v : Ver) (b : UInt8) (w : Bytes) (hk : isUnknown (usType v b) = false)
    (hw : w.length = hdrLen v (usType v b) - 1) :
    Header.pack v (restAbs v (parse0 v {} b) w).1 = .ok (b :: w) := pack_restAbs v b w hk hw

/-- the read loop from a parked state is the read loop over the re-assembled stream -/
theorem drain_spec (v : Ver) (gz : GzOracle) (codec : UInt8) (pend : Option Header) (u q : Bytes)
    (hp : Parked v pend u) : drain v gz codec pend q = run v gz codec (u ++ q) :=
  Frame.drain_spec v gz codec pend u q hp

/-- resumability of the read loop -/
theorem drain_append (v : Ver) (gz : GzOracle) (codec : UInt8) (c u : Bytes) (ks : List Packet)
    (p : Option Header) (r : Bytes) (h : run v gz codec u = (ks, (.more, p, r))) :
    run v gz codec (u ++ c) = (ks ++ (drain v gz codec p (r ++ c)).1, (drain v gz codec p (r ++ c)).2) :=
  Frame.drain_append v gz codec c u ks p r h

/-- what feeding chunk by chunk delivers is what the one-shot loop over the whole stream delivers -/
theorem feed_spec (v : Ver) (gz : GzOracle) (codec : UInt8) (chunks : List Bytes) :
    (feed v gz codec chunks).obs =
      ((run v gz codec chunks.flatten).1,
       if (run v gz codec chunks.flatten).2.1 = .more then none else some (run v gz codec chunks.flatten).2.1) :=
  feed_obs v gz codec chunks

/-- CHUNKING INDEPENDENCE (abstract decoder): the delivered packets and the error verdict after
feeding the chunks one by one (running the read loop after each, stopping at the first error)
are those of feeding the whole stream at once -/
theorem chunking_independent (v : Ver) (gz : GzOracle) (codec : UInt8) (chunks : List Bytes) :
    (feed v gz codec chunks).obs = (feed v gz codec [chunks.flatten]).obs :=
  Frame.chunking_independent v gz codec chunks

/-- the connection over the real ring buffer (`Write` each chunk, loop `Unpack`) observes what the
queue connection observes, from ANY well-formed empty ring -/
theorem ring_feed_eq (v : Ver) (gz : GzOracle) (codec : UInt8) (rb0 : Ring) (wf : rb0.WF)
    (he : rb0.abs = []) (chunks : List Bytes) :
    (rfeed v gz codec rb0 chunks).obs = (feed v gz codec chunks).obs :=
  rfeed_obs v gz codec rb0 wf he chunks

/-- CHUNKING AND GEOMETRY INDEPENDENCE (ring decoder): any two well-formed empty rings — different
capacities, different offsets — fed the same stream cut in any way deliver the same packets and
the same verdict -/
theorem ring_chunking_independent (v : Ver) (gz : GzOracle) (codec : UInt8) (rb₁ rb₂ : Ring)
    (wf₁ : rb₁.WF) (wf₂ : rb₂.WF) (he₁ : rb₁.abs = []) (he₂ : rb₂.abs = []) (chunks : List Bytes) :
    (rfeed v gz codec rb₁ chunks).obs = (rfeed v gz codec rb₂ [chunks.flatten]).obs := by
  rw [rfeed_obs v gz codec rb₁ wf₁ he₁, rfeed_obs v gz codec rb₂ wf₂ he₂]
  exact Frame.chunking_independent v gz codec chunks

/-- instance: `New(cap₁)` against `New(cap₂)` whose pointers were first moved to an arbitrary
offset by writing `pre` and reading it back (`Read` leaves r = w at that offset) -/
theorem ring_chunking_independent_new (v : Ver) (gz : GzOracle) (codec : UInt8) (cap₁ cap₂ : Nat)
    (pre d : Bytes) (rb₂ : Ring) (hrd : ((Ring.new cap₂).write pre).read pre.length = .ok (d, rb₂))
    (chunks : List Bytes) :
    (rfeed v gz codec (Ring.new cap₁) chunks).obs = (rfeed v gz codec rb₂ [chunks.flatten]).obs := by
  have w := Ring.write_spec (Ring.new cap₂) (ring_new cap₂).1 pre
  obtain ⟨h2, _, h3⟩ := Ring.read_ok _ _ w.1 _ _ hrd
  exact ring_chunking_independent v gz codec _ _ (ring_new cap₁).1 h2 (ring_new cap₁).2
    (by rw [h3, w.2, (ring_new cap₂).2]; simp) chunks

/-! non-vacuity: the frame above cut as 3 + 3 + 1 bytes is delivered once, by the last chunk -/
example : (feed .v1 gz0 0 [[3, 7, 0], [0, 2, 9], [8]]).obs =
    ([{ type := .push, cmd := 7, body := [9, 8] }], none) := by
  rw [feed_spec]
  have h1 : unpackAbs .v1 gz0 0 none [3, 7, 0, 0, 2, 9, 8] =
      (.pkt { type := .push, cmd := 7, body := [9, 8] }, none, []) := by decide
  have : run .v1 gz0 0 [3, 7, 0, 0, 2, 9, 8] =
      ([{ type := .push, cmd := 7, body := [9, 8] }], (.more, some {}, [])) := by
    rw [run_pkt _ _ _ h1, run_nil]
  simp [this]
/-- the ring with r = 6 after the move wraps inside the frame -/
example : (((Ring.new 8).write [1, 2, 3, 4, 5, 6]).read 6).toOption.map (fun x => (x.2.r, x.2.w, x.2.isEmpty)) =
    some (6, 6, true) := by decide

/-! ### Layer 4: back-to-back frames — the stream yields what each frame yields on its own -/

/-- COMPLETENESS of one call: a valid layout frame at the head of the queue, followed by ANY bytes
(the next frame, a partial frame, nothing), is delivered by one call from a fresh context as
exactly `packetOf` — the packet `C02.decode_accepts` says the one-shot decoder returns on the
frame alone — with nothing parked and exactly the following bytes left in the queue -/
theorem decode_accepts_stream (v : Ver) (gz : GzOracle) (codec : UInt8) (f : Spec.Frame) (content : Bytes)
    (ps : List Metadata.Pair) (rest : Bytes) (hv : ValidFrame v gz f content ps) :
    unpackAbs v gz codec none (Spec.encode v f ++ rest) = (.pkt (packetOf f codec content ps), none, rest) :=
  Frame.decode_accepts_stream v gz codec f content ps rest hv

/-- … and over the ring: any well-formed ring (any geometry) holding such bytes -/
theorem decode_accepts_ring (v : Ver) (gz : GzOracle) (codec : UInt8) (f : Spec.Frame) (content : Bytes)
    (ps : List Metadata.Pair) (rest : Bytes) (hv : ValidFrame v gz f content ps) (rb : Ring) (wf : rb.WF)
    (hq : rb.abs = Spec.encode v f ++ rest) :
    (unpackRing v gz codec none rb).res = .pkt (packetOf f codec content ps) ∧
    (unpackRing v gz codec none rb).pend = none ∧
    (unpackRing v gz codec none rb).rb.WF ∧ (unpackRing v gz codec none rb).rb.abs = rest := by
  obtain ⟨w, e⟩ := unpackRing_refines v gz codec none (⟨wf, hq⟩ : rb.Holds _)
  rw [Frame.decode_accepts_stream v gz codec f content ps rest hv, Prod.mk.injEq, Prod.mk.injEq] at e
  exact ⟨e.1.symm, e.2.1.symm, w, e.2.2.symm⟩

/-- the read loop over back-to-back valid frames: the packets the frames denote, in order, then
"need more data" on an empty queue (a fresh header parked: `some {}`, the idle state) -/
theorem frames_decode_in_order (v : Ver) (gz : GzOracle) (codec : UInt8)
    (fs : List (Spec.Frame × Bytes × List Metadata.Pair))
    (hv : ∀ x ∈ fs, ValidFrame v gz x.1 x.2.1 x.2.2) :
    run v gz codec (fs.map (fun x => Spec.encode v x.1)).flatten =
      (fs.map (fun x => packetOf x.1 codec x.2.1 x.2.2), (.more, some {}, [])) :=
  Frame.frames_decode_in_order v gz codec fs hv

/-- THE STREAM YIELDS EACH FRAME. For any list of valid frames of the published layout sent back to
back, and ANY chunking of the concatenation (cuts anywhere: inside a header, a length field, the
metadata block, the body, the trailer; several frames per chunk; empty chunks), the connection
delivers exactly one packet per frame, in order, and the i-th packet is the packet the one-shot
decoder `UnpackBytes` returns on the i-th frame alone; no error verdict.
(`Forall₂`: same length, related index by index — `forall₂_iff_getElem`.) -/
theorem stream_yields_each_frame (v : Ver) (gz : GzOracle) (codec : UInt8) (fs : List Spec.Frame)
    (hv : ∀ f ∈ fs, ∃ content ps, ValidFrame v gz f content ps)
    (chunks : List Bytes) (hc : chunks.flatten = (fs.map (Spec.encode v)).flatten) :
    ∃ qs, (feed v gz codec chunks).obs = (qs, none) ∧
      Forall₂ (fun f q => unpackBytes v gz codec (Spec.encode v f) = .ok q) fs qs := by
  obtain ⟨qs, hqs⟩ := denotes_list codec hv
  exact ⟨qs, feed_frames v gz codec fs qs hqs chunks hc, hqs.imp fun _ _ hd => hd.oneshot⟩

/-- the same as an equation between lists of results -/
theorem stream_yields_each_frame_eq (v : Ver) (gz : GzOracle) (codec : UInt8) (fs : List Spec.Frame)
    (hv : ∀ f ∈ fs, ∃ content ps, ValidFrame v gz f content ps)
    (chunks : List Bytes) (hc : chunks.flatten = (fs.map (Spec.encode v)).flatten) :
    (feed v gz codec chunks).obs.2 = none ∧
    (feed v gz codec chunks).obs.1.map Res.ok = fs.map (fun f => unpackBytes v gz codec (Spec.encode v f)) := by
  obtain ⟨qs, h1, h2⟩ := stream_yields_each_frame v gz codec fs hv chunks hc
  rw [h1]
  refine ⟨rfl, ?_⟩
  clear h1 hv hc
  induction h2 with
  | nil => rfl
  | cons hab _ ih => simp only [List.map_cons, hab]; exact congrArg _ ih

/-- … and over the real ring buffer, from any well-formed empty ring (any capacity, any offsets) -/
theorem ring_stream_yields_each_frame (v : Ver) (gz : GzOracle) (codec : UInt8) (fs : List Spec.Frame)
    (hv : ∀ f ∈ fs, ∃ content ps, ValidFrame v gz f content ps)
    (rb0 : Ring) (wf : rb0.WF) (he : rb0.abs = [])
    (chunks : List Bytes) (hc : chunks.flatten = (fs.map (Spec.encode v)).flatten) :
    ∃ qs, (rfeed v gz codec rb0 chunks).obs = (qs, none) ∧
      Forall₂ (fun f q => unpackBytes v gz codec (Spec.encode v f) = .ok q) fs qs := by
  rw [rfeed_obs v gz codec rb0 wf he chunks]
  exact stream_yields_each_frame v gz codec fs hv chunks hc

/-! non-vacuity: a v1 push frame and a v1 request frame (reserve bits 01) back to back, 19 bytes;
whatever the chunking, both packets are delivered, in order -/
private def fPush : Spec.Frame := { type := 3, verify := 0, gzip := 0, reserve := 0, cmd := 7, body := [9, 8] }
private def fReq : Spec.Frame :=
  { type := 1, verify := 0, gzip := 0, reserve := 1, cmd := 5, rid := 258, timeout := 3, body := [1] }

private theorem fPush_valid : ValidFrame .v1 gz0 fPush [9, 8] [] :=
  { type := by decide, verify := by decide, gzip := by decide, reserve := by decide, cmd := by decide
    rid := by decide, timeout := by decide, status := by decide, nonce := by decide, sig := by decide
    body := by decide, md1 := fun _ => ⟨rfl, rfl⟩, mdlen := by decide
    md2 := by intro h; cases h
    gz1 := by intro h; cases h
    gz0 := fun _ => rfl }

private theorem fReq_valid : ValidFrame .v1 gz0 fReq [1] [] :=
  { type := by decide, verify := by decide, gzip := by decide, reserve := by decide, cmd := by decide
    rid := by decide, timeout := by decide, status := by decide, nonce := by decide, sig := by decide
    body := by decide, md1 := fun _ => ⟨rfl, rfl⟩, mdlen := by decide
    md2 := by intro h; cases h
    gz1 := by intro h; cases h
    gz0 := fun _ => rfl }

private theorem fPushReq_valid : ∀ f ∈ [fPush, fReq], ∃ content ps, ValidFrame .v1 gz0 f content ps := by
  intro f hf
  simp only [List.mem_cons, List.not_mem_nil, or_false] at hf
  rcases hf with rfl | rfl
  · exact ⟨_, _, fPush_valid⟩
  · exact ⟨_, _, fReq_valid⟩

private theorem fPushReq_denotes : Forall₂ (Denotes .v1 gz0 0) [fPush, fReq]
    [{ type := .push, cmd := 7, body := [9, 8] }, { type := .request, cmd := 5, rid := 258, timeout := 3, body := [1] }] :=
  .cons ⟨_, _, fPush_valid, by decide⟩ (.cons ⟨_, _, fReq_valid, by decide⟩ .nil)

example : Spec.encode .v1 fPush ++ Spec.encode .v1 fReq =
    [3, 7, 0, 0, 2, 9, 8, 65, 5, 0, 0, 1, 2, 0, 3, 0, 0, 1, 1] := by decide

example (chunks : List Bytes)
    (hc : chunks.flatten = [3, 7, 0, 0, 2, 9, 8, 65, 5, 0, 0, 1, 2, 0, 3, 0, 0, 1, 1]) :
    (feed .v1 gz0 0 chunks).obs =
      ([{ type := .push, cmd := 7, body := [9, 8] },
        { type := .request, cmd := 5, rid := 258, timeout := 3, body := [1] }], none) :=
  feed_frames .v1 gz0 0 _ _ fPushReq_denotes chunks (by rw [hc]; decide)

/-- one concrete chunking, cut inside the first body-length field and inside the second request id -/
example : (feed .v1 gz0 0 [[3, 7, 0], [0, 2, 9, 8, 65, 5, 0], [], [0, 1, 2, 0, 3, 0, 0, 1, 1]]).obs.1.length = 2 := by
  obtain ⟨qs, h1, h2⟩ := stream_yields_each_frame .v1 gz0 0 [fPush, fReq] fPushReq_valid
    [[3, 7, 0], [0, 2, 9, 8, 65, 5, 0], [], [0, 1, 2, 0, 3, 0, 0, 1, 1]] (by decide)
  rw [h1]; exact h2.length_eq.symm

/-- one call, v2: the example frame of C02 (response, verify, reserve = 2, one metadata pair) followed
by arbitrary bytes is delivered in full — 16-byte signature, not "all trailing bytes" — and exactly
the trailing bytes stay queued -/
example (gz : GzOracle) (rest : Bytes) :
    unpackAbs .v2 gz 1 none (Spec.encode .v2 C02.exFrame ++ rest) =
      (.pkt { type := .response, cmd := 7, rid := 0x01020304, status := 9, verify := true, nonce := 5
              signature := List.replicate 16 0xAA, values := [([0x61], [0x78])], codec := 1, body := [1, 2, 3] },
       none, rest) := by
  rw [decode_accepts_stream .v2 gz 1 C02.exFrame _ _ rest (C02.exFrame_valid gz)]
  have : packetOf C02.exFrame 1 [1, 2, 3] [([0x61], [0x78])] =
      { type := .response, cmd := 7, rid := 0x01020304, status := 9, verify := true, nonce := 5
        signature := List.replicate 16 0xAA, values := [([0x61], [0x78])], codec := 1, body := [1, 2, 3] } := by decide
  rw [this]

private def twoFrames : List (Spec.Frame × Bytes × List Metadata.Pair) := [(fPush, [9, 8], []), (fReq, [1], [])]

/-- the read loop on the two v1 frames above -/
example : run .v1 gz0 0 [3, 7, 0, 0, 2, 9, 8, 65, 5, 0, 0, 1, 2, 0, 3, 0, 0, 1, 1] =
    ([{ type := .push, cmd := 7, body := [9, 8] }, { type := .request, cmd := 5, rid := 258, timeout := 3, body := [1] }],
     (.more, some {}, [])) := by
  have := frames_decode_in_order .v1 gz0 0 twoFrames (by
    unfold twoFrames
    intro x hx
    simp only [List.mem_cons, List.not_mem_nil, or_false] at hx
    rcases hx with rfl | rfl
    · exact fPush_valid
    · exact fReq_valid)
  have e : (twoFrames.map (fun x => Spec.encode .v1 x.1)).flatten =
      [3, 7, 0, 0, 2, 9, 8, 65, 5, 0, 0, 1, 2, 0, 3, 0, 0, 1, 1] := by decide
  rw [e] at this
  rw [this]; decide

/-! ### Layer 5: the TCP connection's reader goroutine (`(*tcpConn).reading`, go/client/tcp_conn.go)

The reader does not write every socket read into one ring (that is `rfeed` above). When the left-over
ring `conn.readBuf` is empty it decodes the chunk in place through `ringbuffer.NewWithData(conn.buf[:n])`
and saves what is left with `first, _ := buffer.PeekAll(); conn.readBuf.Write(first)`; otherwise it
writes the chunk behind the left-over and decodes `conn.readBuf`. The parked header is shared by both
paths. Model: OAP/Model/Client/Reading.lean; proofs: OAP/Proofs/Reading.lean. -/
section TcpReader
open OAP.Reading

/-- KEY LEMMA of the fast path: on every ring reachable from `NewWithData(d)` by `Retrieve` / `Read` /
peeks only (no `Write`) — whatever was consumed, everything, nothing; empty `d` included — the write
position is still 0, so `PeekAll` returns an EMPTY second slice and ALL unread bytes, a suffix of `d`,
in the first: keeping only `first` loses nothing -/
theorem tcp_fast_path_first_is_everything (d : Bytes) (b : Ring) (h : Reach (Ring.newWithData d) b) :
    b.WF ∧ b.w = 0 ∧ b.peekAll.2 = [] ∧ b.peekAll.1 = b.abs ∧ ∃ k, b.abs = d.drop k := by
  obtain ⟨h1, h2, _, _, h3, h4, h5⟩ := reach_newWithData d b h
  exact ⟨h1, h2, h3, h4, h5⟩

/-- one `Unpack` call, and the whole `readPacket` loop, only move the ring by `Retrieve` / `Read` -/
theorem tcp_unpack_only_consumes (v : Ver) (gz : GzOracle) (codec : UInt8) (pend : Option Header) (rb : Ring) :
    Reach rb (unpackRing v gz codec pend rb).rb ∧ Reach rb (readPacket v gz codec pend rb).2.2.2 :=
  ⟨unpackRing_reach v gz codec pend rb rb .refl, readPacket_reach v gz codec pend rb⟩

/-- `readPacket` is the read loop `drainRing` of Layer 3 on every well-formed ring (its fuel never runs out) -/
theorem tcp_readPacket_is_drainRing (v : Ver) (gz : GzOracle) (codec : UInt8) (pend : Option Header)
    (rb : Ring) (wf : rb.WF) : readPacket v gz codec pend rb = drainRing v gz codec pend rb :=
  readPacket_eq_drainRing v gz codec pend rb wf

/-- REFINEMENT: from any well-formed empty `conn.readBuf`, for any sequence of socket reads, the
reader goroutine delivers the packets and reaches the verdict of the abstract queue connection -/
theorem tcp_reader_eq_feed (v : Ver) (gz : GzOracle) (codec : UInt8) (rb0 : Ring) (wf : rb0.WF)
    (he : rb0.abs = []) (chunks : List Bytes) :
    (reading v gz codec rb0 chunks).obs = (feed v gz codec chunks).obs :=
  reading_eq_feed v gz codec rb0 wf he chunks

/-- … so what it observes is the one-shot read loop over the concatenated stream -/
theorem tcp_reader_spec (v : Ver) (gz : GzOracle) (codec : UInt8) (rb0 : Ring) (wf : rb0.WF)
    (he : rb0.abs = []) (chunks : List Bytes) :
    (reading v gz codec rb0 chunks).obs =
      ((run v gz codec chunks.flatten).1,
       if (run v gz codec chunks.flatten).2.1 = .more then none else some (run v gz codec chunks.flatten).2.1) :=
  reading_spec v gz codec rb0 wf he chunks

/-- the reader goroutine never panics in the decoder or the ring buffer, on any input, for any segmentation,
on either path (`NewWithData` of a non-empty chunk, `Read` / `Retrieve` / `PeekUintN` on the temporary
ring and on the grown left-over ring included) — and the model's out-of-fuel result never occurs.
`Write` is not part of the claim: in the model it cannot panic by its type (`Ring → Bytes → Ring`), while Go's
`Write` divides by zero on a zero-capacity ring flagged non-empty (`NewWithData([]byte{})`); the reader writes
only to `conn.readBuf`, which comes from `New`. -/
theorem tcp_reader_no_panic (v : Ver) (gz : GzOracle) (codec : UInt8) (rb0 : Ring) (wf : rb0.WF)
    (he : rb0.abs = []) (chunks : List Bytes) (w : String) :
    (reading v gz codec rb0 chunks).stopped ≠ some (.panic w) := fun hc =>
  run_ne_panic v gz codec w _ ((reading_invariant v gz codec rb0 wf he chunks).dead _ hc).2

/-- the reader's invariant (see `Reading.RInv`): well-formed left-over ring, a parked header the decoder
itself parks, and — while running — parked header ++ left-over bytes = the undelivered stream -/
theorem tcp_reader_invariant (v : Ver) (gz : GzOracle) (codec : UInt8) (rb0 : Ring) (wf : rb0.WF)
    (he : rb0.abs = []) (chunks : List Bytes) :
    RInv v gz codec (reading v gz codec rb0 chunks) chunks.flatten :=
  reading_invariant v gz codec rb0 wf he chunks

/-- SEGMENTATION INDEPENDENCE of the TCP reader, general form: two well-formed empty left-over rings
(any capacities, any offsets), two segmentations of the same byte stream (cuts anywhere, empty reads
allowed) — hence any two interleavings of fast-path and slow-path reads — same packets, same verdict -/
theorem tcp_reader_segmentation_independent' (v : Ver) (gz : GzOracle) (codec : UInt8) (rb₁ rb₂ : Ring)
    (wf₁ : rb₁.WF) (wf₂ : rb₂.WF) (he₁ : rb₁.abs = []) (he₂ : rb₂.abs = [])
    (chunks₁ chunks₂ : List Bytes) (h : chunks₁.flatten = chunks₂.flatten) :
    (reading v gz codec rb₁ chunks₁).obs = (reading v gz codec rb₂ chunks₂).obs := by
  rw [reading_spec v gz codec rb₁ wf₁ he₁, reading_spec v gz codec rb₂ wf₂ he₂, h]

/-- SEGMENTATION INDEPENDENCE of the TCP reader as dialled: `readBuf = ringbuffer.New(ReadBufferSize)`,
for any two buffer sizes -/
theorem tcp_reader_segmentation_independent (v : Ver) (gz : GzOracle) (codec : UInt8) (cap₁ cap₂ : Nat)
    (chunks₁ chunks₂ : List Bytes) (h : chunks₁.flatten = chunks₂.flatten) :
    (reading v gz codec (Ring.new cap₁) chunks₁).obs = (reading v gz codec (Ring.new cap₂) chunks₂).obs :=
  tcp_reader_segmentation_independent' v gz codec _ _ (ring_new cap₁).1 (ring_new cap₂).1
    (ring_new cap₁).2 (ring_new cap₂).2 chunks₁ chunks₂ h

/-- THE TCP READER DELIVERS EACH FRAME: for a stream of back-to-back valid frames of the published
layout, cut into socket reads in ANY way, from any well-formed empty `conn.readBuf`, the reader
delivers exactly one packet per frame, in order — the packet the one-shot decoder returns on that
frame alone — and no error -/
theorem tcp_reader_delivers_frames (v : Ver) (gz : GzOracle) (codec : UInt8) (fs : List Spec.Frame)
    (hv : ∀ f ∈ fs, ∃ content ps, ValidFrame v gz f content ps)
    (rb0 : Ring) (wf : rb0.WF) (he : rb0.abs = [])
    (chunks : List Bytes) (hc : chunks.flatten = (fs.map (Spec.encode v)).flatten) :
    ∃ qs, (reading v gz codec rb0 chunks).obs = (qs, none) ∧
      Forall₂ (fun f q => unpackBytes v gz codec (Spec.encode v f) = .ok q) fs qs := by
  rw [reading_eq_feed v gz codec rb0 wf he chunks]
  exact stream_yields_each_frame v gz codec fs hv chunks hc

/-- … with the packets named: the ones the frames denote (`Denotes`, OAP/Proofs/StreamComplete.lean) -/
theorem tcp_reader_delivers_denoted (v : Ver) (gz : GzOracle) (codec : UInt8) (fs : List Spec.Frame)
    (qs : List Packet) (h : Forall₂ (Denotes v gz codec) fs qs)
    (cap : Nat) (chunks : List Bytes) (hc : chunks.flatten = (fs.map (Spec.encode v)).flatten) :
    (reading v gz codec (Ring.new cap) chunks).obs = (qs, none) :=
  tcp_reader_frames v gz codec fs qs h _ (ring_new cap).1 (ring_new cap).2 chunks hc

/-! non-vacuity: the two v1 frames of Layer 4 (push `03 07 000002 09 08`, request `41 05 00000102 0003 000001 01`),
`readBuf = New(8)` -/

private def pPush : Packet := { type := .push, cmd := 7, body := [9, 8] }
private def pReq : Packet := { type := .request, cmd := 5, rid := 258, timeout := 3, body := [1] }
private def chunkA2 : Bytes := [0, 2, 9, 8, 65, 5, 0, 0, 1, 2, 0, 3, 0, 0, 1, 1]

/-- (a) the first read `03 07 00` ends in mid-header. FAST path: byte 0 goes into the parked header
while the temporary ring is decoded, `07 00` is the left-over copied into `readBuf` — the parked
header belongs to bytes that now live in the other buffer; undelivered = `03 07 00` -/
private def sA := reading .v1 gz0 0 (Ring.new 8) [[3, 7, 0]]
example : pathOf { readBuf := Ring.new 8 } [3, 7, 0] = .fast := by decide
example : sA.readBuf.abs = [7, 0] ∧ sA.pkts = [] ∧ sA.stopped = none := by decide
example : sA.pend.map (fun h => (h.beginUnpack, h.isUnpacked, h.type)) = some (true, false, 3) := by decide
example : sA.unread .v1 = [3, 7, 0] := by decide
/-- … the next read takes the SLOW path (write behind `07 00`, decode `readBuf`, which has to grow
from 8 to 18 bytes) and both packets come out -/
example : pathOf sA chunkA2 = .slow := by decide
example : (reading .v1 gz0 0 (Ring.new 8) [[3, 7, 0], chunkA2]).obs = ([pPush, pReq], none) := by decide
example : (reading .v1 gz0 0 (Ring.new 8) [[3, 7, 0], chunkA2]).readBuf.size = 18 := by decide

/-- (b) the first read delivers the push packet and leaves a partial second frame `41 05 00`: FAST
path, byte 0 of the second frame parked, `05 00` left over -/
private def sB := reading .v1 gz0 0 (Ring.new 8) [[3, 7, 0, 0, 2, 9, 8, 65, 5, 0]]
example : pathOf { readBuf := Ring.new 8 } [3, 7, 0, 0, 2, 9, 8, 65, 5, 0] = .fast := by decide
example : sB.pkts = [pPush] ∧ sB.readBuf.abs = [5, 0] ∧ sB.stopped = none := by decide
example : sB.unread .v1 = [65, 5, 0] := by decide
example : pathOf sB [0, 1, 2, 0, 3, 0, 0, 1, 1] = .slow := by decide
example : (reading .v1 gz0 0 (Ring.new 8) [[3, 7, 0, 0, 2, 9, 8, 65, 5, 0], [0, 1, 2, 0, 3, 0, 0, 1, 1]]).obs =
    ([pPush, pReq], none) := by decide

/-- (c) a read that ends inside the body: the COMPLETE header is parked on the fast path, `09` is the
left-over; an empty read is skipped; the slow path then finishes the frame, the left-over ring is
empty again and the following read is decoded in place (fast) -/
private def sC := reading .v1 gz0 0 (Ring.new 8) [[3, 7, 0, 0, 2, 9]]
example : sC.readBuf.abs = [9] ∧ sC.unread .v1 = [3, 7, 0, 0, 2, 9] := by decide
example : sC.pend.map (fun h => (h.isUnpacked, h.bodyLength)) = some (true, 2) := by decide
example : pathOf sC [] = .skip ∧ pathOf sC [8] = .slow := by decide
example : pathOf (reading .v1 gz0 0 (Ring.new 8) [[3, 7, 0, 0, 2, 9], [], [8]]) [65] = .fast := by decide
example : (reading .v1 gz0 0 (Ring.new 8)
    [[3, 7, 0, 0, 2, 9], [], [8], [65, 5, 0, 0, 1, 2, 0, 3, 0, 0, 1, 1]]).obs = ([pPush, pReq], none) := by decide

/-- (d) an error closes the connection: type 0 is invalid; later reads are ignored -/
example : (reading .v1 gz0 0 (Ring.new 8) [[3, 7, 0, 0, 2, 9, 8, 0, 1], [3, 7, 0, 0, 2, 9, 8]]).obs =
    ([pPush], some (.err "invalid packet type")) := by decide
example : pathOf (reading .v1 gz0 0 (Ring.new 8) [[3, 7, 0, 0, 2, 9, 8, 0, 1]]) [3] = .returned := by decide

/-- the general theorem on this stream: every segmentation, every buffer size -/
example (cap : Nat) (chunks : List Bytes)
    (hc : chunks.flatten = [3, 7, 0, 0, 2, 9, 8, 65, 5, 0, 0, 1, 2, 0, 3, 0, 0, 1, 1]) :
    (reading .v1 gz0 0 (Ring.new cap) chunks).obs = ([pPush, pReq], none) :=
  tcp_reader_delivers_denoted .v1 gz0 0 _ _ fPushReq_denotes cap chunks (by rw [hc]; decide)

end TcpReader

/-! ### generated translation of the streaming header decoder (T2, function level)

`Gen.Fn.v1_Header_Unpack` and `Gen.Fn.v2_Header_Unpack` are rewritten from go/v1/header.go and go/v2/v2_header.go by every run:
the `buffer.Length()` guards, the `IsUnpacked` / `BeginUnpack` resumption flags, every `PeekUintN` / `Retrieve(n)` pair in the order of
the source, the `Peek(3)` into two slices and the four-way `switch len(f)` with its index expressions (`panic` where Go would panic),
over the ring-buffer model of OAP/Model/Ring.lean. Layers 2 and 3 above are about the hand-written `Header.unpackRing`
(inside `unpackRing`); this says it is the same function. -/

/-- `func (h *Header) Unpack(ctx, buffer *ringbuffer.RingBuffer) (done bool, err error)` of v1 and v2 as translated, for EVERY header
state (fresh, byte 0 already parsed, already done — whatever the fields hold) and EVERY ring (any capacity, offsets, wrap position; no
well-formedness needed): the same header fields afterwards (`BeginUnpack`, `IsUnpacked` included), the same ring afterwards, the same
`done`, the same error — returned together with the state the call leaves behind — and a panic exactly where the model panics
(`GenFuncs.hout` puts the model's outcome record into the shape of the generated result) -/
theorem header_unpack_is_generated (h : Header) (rb : Ring) :
    (Gen.Fn.v1_Header_Unpack (GenFuncs.v1G h) rb).map (fun p => (GenFuncs.v1B h.metadataLength p.1, p.2))
      = GenFuncs.hout (Header.unpackRing .v1 h rb) ∧
    (Gen.Fn.v2_Header_Unpack (GenFuncs.v2G h) rb).map (fun p => (GenFuncs.v2M p.1, p.2))
      = GenFuncs.hout (Header.unpackRing .v2 h rb) :=
  ⟨GenFuncs.v1_header_unpack_gen h rb, GenFuncs.v2_header_unpack_gen h rb⟩

/-- the same read from the generated side: every value of the generated structs is covered -/
theorem header_unpack_is_generated' (g1 : Gen.Fn.V1Header) (g2 : Gen.Fn.V2Header) (rb : Ring) :
    (Gen.Fn.v1_Header_Unpack g1 rb).map (fun p => (GenFuncs.v1M p.1, p.2)) = GenFuncs.hout (Header.unpackRing .v1 (GenFuncs.v1M g1) rb) ∧
    (Gen.Fn.v2_Header_Unpack g2 rb).map (fun p => (GenFuncs.v2M p.1, p.2)) = GenFuncs.hout (Header.unpackRing .v2 (GenFuncs.v2M g2) rb) :=
  ⟨GenFuncs.v1_header_unpack_gen' g1 rb, GenFuncs.v2_header_unpack_gen' g2 rb⟩

/-- non-vacuity: the translated v1 decoder on a ring whose push header wraps around the end of the buffer -/
example :
    (match Gen.Fn.v1_Header_Unpack {} { buf := [0x01, 0x02, 0x03, 0, 0, 0, 0x03, 0x07], size := 8, r := 6, w := 3, isEmpty := false } with
     | .ok (g, rb', done, err) =>
       g.type == 3 && g.cmdCode == 7 && g.bodyLength == 0x010203 && g.beginUnpack && g.isUnpacked && rb'.isEmpty && done && err.isNone
     | _ => false) = true := GenFuncs.v1_unpack_wrapped_example

/-- both streaming header decoders and both protocol-level streaming decoders were inside the translatable subset in this run -/
theorem functions_translated :
    "v1.Header.Unpack" ∈ Gen.Fn.translated ∧ "v2.Header.Unpack" ∈ Gen.Fn.translated ∧
    "v1.protocolV1.Unpack" ∈ Gen.Fn.translated ∧ "v2.protocolV2.Unpack" ∈ Gen.Fn.translated := by
  decide +kernel

/-! ### the protocol-level streaming decoder is generated, too

`func (p *protocolV1) Unpack(ctx, buf) (packet, done, err)` (go/v1/v1.go) is translated on every run (`Gen.Fn.v1_protocolV1_Unpack`): the header
slot of the connection context is the threaded variable `pend : Option V1Header`, `header.Unpack(ctx, buf)` is the call of the translated
header decoder, `buf.Read` is the ring model's `Ring.read`, the deferred conditional release runs at every return. -/

/-- the translated `(*protocolV1).Unpack` is `Frame.unpackRing .v1` — the function layers 2 and 3 above are about — for every oracle, codec,
parked header (`none`: nothing parked) and every well-formed ring (`Ring.WF`, kept by every ring operation): the same parked header and the
same ring afterwards, the same packet / `done` / error, a panic exactly where the model panics (`GenFuncs.sout` puts the model's outcome
record into the shape of the generated result; `GenFuncs.gout` converts the generated structs and drops the packet next to an error) -/
theorem protocol_unpack_is_generated (gz : GzOracle) (codec : UInt8) (pend : Option Gen.Fn.V1Header) (rb : Ring) (wf : rb.WF) :
    (Gen.Fn.v1_protocolV1_Unpack gz codec pend rb).map GenFuncs.gout
      = GenFuncs.sout (unpackRing .v1 gz codec (pend.map GenFuncs.v1M) rb) := by
  cases pend with
  | some g => exact GenFuncs.v1_protocol_unpack_some gz codec g rb wf
  | none => exact GenFuncs.v1_protocol_unpack_some gz codec {} rb wf  -- nothing parked: a fresh pool header

/-- the same read from the model's side: every model header without a metadata length (v1 has none) parked -/
theorem protocol_unpack_is_generated' (gz : GzOracle) (codec : UInt8) (pend : Option Header) (rb : Ring) (wf : rb.WF)
    (hm : ∀ h, pend = some h → h.metadataLength = 0) :
    (Gen.Fn.v1_protocolV1_Unpack gz codec (pend.map GenFuncs.v1G) rb).map GenFuncs.gout = GenFuncs.sout (unpackRing .v1 gz codec pend rb) := by
  rw [protocol_unpack_is_generated gz codec (pend.map GenFuncs.v1G) rb wf]
  cases pend with
  | none => rfl
  | some h =>
    have h0 := hm h rfl
    have : GenFuncs.v1M (GenFuncs.v1G h) = h := by
      cases h; simp only [GenFuncs.v1G, GenFuncs.v1M] at *; simp [h0]
    simp [this]

/-- `func (p *protocolV2) Unpack` as translated is `Frame.unpackRing .v2` followed by the key lower-casing of `Metadata.UnmarshalValues`
(`lower` = strings.ToLower; the hand-written streaming model keeps the raw pairs, exactly as in the one-shot case C01.unpackBytes_is_generated):
every oracle, codec, parked header, every well-formed ring -/
theorem protocol_unpack_is_generated_v2 (gz : GzOracle) (lower : Bytes → Bytes) (codec : UInt8) (pend : Option Gen.Fn.V2Header) (rb : Ring)
    (wf : rb.WF) :
    (Gen.Fn.v2_protocolV2_Unpack gz lower codec pend rb).map GenFuncs.gout2
      = GenFuncs.soutL lower (unpackRing .v2 gz codec (pend.map GenFuncs.v2M) rb) := by
  cases pend with
  | some g => exact GenFuncs.v2_protocol_unpack_some gz lower codec g rb wf
  | none => exact GenFuncs.v2_protocol_unpack_some gz lower codec {} rb wf

/-- … and with keys that are lower case already (`lower` the identity) exactly the model -/
theorem protocol_unpack_is_generated_v2_id (gz : GzOracle) (codec : UInt8) (pend : Option Gen.Fn.V2Header) (rb : Ring) (wf : rb.WF) :
    (Gen.Fn.v2_protocolV2_Unpack gz id codec pend rb).map GenFuncs.gout2
      = GenFuncs.sout (unpackRing .v2 gz codec (pend.map GenFuncs.v2M) rb) := by
  rw [protocol_unpack_is_generated_v2 gz id codec pend rb wf]
  unfold GenFuncs.soutL GenFuncs.sout
  cases (unpackRing .v2 gz codec (pend.map GenFuncs.v2M) rb).res <;> simp [GenFuncs.lowerKeys]

/-- non-vacuity: a frame delivered in two pieces — the first call parks the unpacked header and asks for more, the second call, given the
parked header, returns the packet and releases it; an unknown type returns the error with the header released -/
example :
    (match Gen.Fn.v1_protocolV1_Unpack ⟨fun _ => .err "none", fun _ => none⟩ 0 none
        { buf := [0x03, 0x07, 0, 0, 2, 0, 0, 0], size := 8, r := 0, w := 5, isEmpty := false } with
     | .ok (some g, rb', none, false, none) =>
       g.isUnpacked && g.bodyLength == 2 && rb'.isEmpty &&
       (match Gen.Fn.v1_protocolV1_Unpack ⟨fun _ => .err "none", fun _ => none⟩ 0 (some g)
          { buf := [0x03, 0x07, 0, 0, 2, 0xAA, 0xBB, 0], size := 8, r := 5, w := 7, isEmpty := false } with
        | .ok (none, rb'', some p, true, none) => p.body == [0xAA, 0xBB] && p.metadata.cmdCode == 7 && rb''.isEmpty
        | _ => false)
     | _ => false) = true := GenFuncs.v1_unpack_resume_example

end OAP.C03
