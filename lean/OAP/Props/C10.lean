/-
C10 — Gzip transparency and integrity. The glue of go/gzip/gzip.go around compress/gzip
(an oracle, `GzOracle`) and the frame-level threshold rule; then the two pools of compressors / decompressors under
concurrent use (Pool view), and the oracle instantiated by a gzip written in Lean. Property theorems, with the two definitions
their examples need (`idGz`, `relayed`).
-/
import OAP.Model.Frame
import OAP.Proofs.Frame
import OAP.Model.PoolGzip
import OAP.Proofs.Inflate
namespace OAP.C10
open OAP OAP.Frame

/-- Decompress succeeds ONLY for a complete, checksum-valid stream, and then returns its full content (the definition of
`Gzip.decompress` read as an iff: true by construction of the oracle model) -/
theorem decompress_ok_iff (gz : GzOracle) (bs out : Bytes) :
    Gzip.decompress gz bs = .ok out ↔ gz.read bs = some (out, true) := by
  rcases decompress_cases gz bs with ⟨c, hc, hd⟩ | ⟨hn, hd⟩ <;> rw [hd]
  · simp [hc]
  · simp [hn]

/-- anything else is an error: never a truncated or altered prefix returned as success, never a panic -/
theorem decompress_err_otherwise (gz : GzOracle) (bs : Bytes) (h : ∀ out, gz.read bs ≠ some (out, true)) :
    ∃ e, Gzip.decompress gz bs = .err e := by
  rcases decompress_cases gz bs with ⟨c, hc, _⟩ | ⟨_, hd⟩
  · exact absurd hc (h c)
  · exact ⟨_, hd⟩

/-- Compress then Decompress is the identity (under the oracle's soundness assumption) -/
theorem decompress_compress (gz : GzOracle) (hs : gz.Sound) (x : Bytes) :
    ∃ c, gz.compress x = .ok c ∧ Gzip.decompress gz c = .ok x := by
  obtain ⟨c, h1, h2⟩ := hs x
  exact ⟨c, h1, (decompress_ok_iff gz c x).mpr h2⟩

/-- the buffer Decompress asks for is bounded by the input actually supplied times the format's
maximum expansion ratio — whatever the (untrusted) ISIZE trailer says -/
theorem alloc_gzip (bs : Bytes) : Gzip.allocDecompress bs ≤ bs.length * Gzip.maxExpansion + Gzip.minRead := by
  unfold Gzip.allocDecompress
  generalize bs.length * Gzip.maxExpansion = cap
  simp only
  split
  · split <;> omega
  · omega

/-- the threshold rule of the extracted condition: compress exactly when thr ≠ 0 and the body reaches it -/
theorem gzipCond_iff (v : Ver) (thr : Int) (n : Nat) :
    gzipCond v thr n = true ↔ (thr ≠ 0 ∧ thr ≤ n) := by
  cases v <;> simp [gzipCond, Gen.v1GzipCond, Gen.v2GzipCond]

/-- the packet as it leaves Pack: the compressor's output as body and the flag set when the threshold
rule engaged; otherwise the body untouched and the flag CLEAR (a flag left over from the frame the
packet was decoded from — a relayed packet — is not carried into this frame) -/
theorem pack_packet (v : Ver) (gz : GzOracle) (p p' : Packet) (thr : Int) (bs : Bytes)
    (h : pack v gz p thr = .ok (bs, p')) :
    (gzipCond v thr p.body.length = true ∧ ∃ c, gz.compress p.body = .ok c ∧ p' = { p with body := c, gzip := true }) ∨
    (gzipCond v thr p.body.length = false ∧ p' = { p with gzip := false }) := by
  obtain ⟨b, hb, rfl, -⟩ := pack_ok_wire h
  cases hc : gzipCond v thr p.body.length
  · exact .inr ⟨rfl, by rw [(wireBody_ok hb).2 hc]⟩
  · exact .inl ⟨rfl, b, (wireBody_ok hb).1 hc, rfl⟩

/-- under the hypothesis of the round-trip theorems (`p.gzip = false`, part of `C01.InDomain`) the packet
that was not compressed leaves Pack untouched -/
theorem pack_packet_clear (v : Ver) (gz : GzOracle) (p p' : Packet) (thr : Int) (bs : Bytes)
    (h0 : p.gzip = false) (h : pack v gz p thr = .ok (bs, p')) :
    (gzipCond v thr p.body.length = true ∧ ∃ c, gz.compress p.body = .ok c ∧ p' = { p with body := c, gzip := true }) ∨
    (gzipCond v thr p.body.length = false ∧ p' = p) := by
  rcases pack_packet v gz p p' thr bs h with hx | ⟨hc, hp⟩
  · exact .inl hx
  · refine .inr ⟨hc, ?_⟩
    rw [hp, ← h0]

/-- frame level, for EVERY packet — whatever its incoming gzip flag: it leaves Pack flagged exactly when
the threshold rule engaged, and then its body is what the compressor returned; otherwise its body is
untouched -/
theorem gzip_flag_iff (v : Ver) (gz : GzOracle) (p p' : Packet) (thr : Int) (bs : Bytes)
    (h : pack v gz p thr = .ok (bs, p')) :
    (p'.gzip = true ↔ (thr ≠ 0 ∧ thr ≤ p.body.length)) ∧
    (p'.gzip = true → gz.compress p.body = .ok p'.body) ∧ (p'.gzip = false → p'.body = p.body) := by
  obtain ⟨b, hb, rfl, -⟩ := pack_ok_wire h
  exact ⟨gzipCond_iff v thr _, (wireBody_ok hb).1, (wireBody_ok hb).2⟩

/-- A RELAYED packet: its gzip flag is set (as the decoder returns it
for a compressed frame — the body it carries is the decompressed content) and it is packed again with
a threshold that does not engage. It leaves Pack with the flag clear and the body untouched: the flag
was changed (`p'.gzip ≠ p.gzip`), nothing else was (`p' = { p with gzip := false }`) -/
theorem relayed_packet_flag (v : Ver) (gz : GzOracle) (p p' : Packet) (thr : Int) (bs : Bytes)
    (hg : p.gzip = true) (hc : gzipCond v thr p.body.length = false)
    (h : pack v gz p thr = .ok (bs, p')) :
    p'.gzip = false ∧ p'.body = p.body ∧ p'.gzip ≠ p.gzip ∧ p' = { p with gzip := false } := by
  rcases pack_packet v gz p p' thr bs h with ⟨hc', _⟩ | ⟨_, rfl⟩
  · rw [hc] at hc'; cases hc'
  · exact ⟨rfl, rfl, by simp [hg], rfl⟩

/-- ON THE WIRE: the gzip bit (bit 5) of byte 0 of the frame Pack emits IS the engagement of the
threshold rule — for every packet Pack accepts (so: of a known type), whatever its incoming gzip flag.
Stated three ways: arithmetically on byte 0, as the decoder extracts it (`ubGzip`), and on the frame of
the published layout that the output is (`C02.pack_conforms`: `bs = Spec.encode v (specOf v p')`) -/
theorem frame_flag_is_engagement (v : Ver) (gz : GzOracle) (p p' : Packet) (thr : Int) (bs : Bytes)
    (h : pack v gz p thr = .ok (bs, p')) :
    ∃ b0 rest, bs = b0 :: rest ∧
      (b0.toNat / 32 % 2 = 1 ↔ (thr ≠ 0 ∧ thr ≤ p.body.length)) ∧
      (ubGzip v b0 = 1 ↔ (thr ≠ 0 ∧ thr ≤ p.body.length)) ∧
      ((specOf v p').gzip = 1 ↔ (thr ≠ 0 ∧ thr ≤ p.body.length)) := by
  obtain ⟨hflag, -⟩ := gzip_flag_iff v gz p p' thr bs h
  obtain ⟨t, rest, ht, hbs⟩ := pack_byte0 v gz p p' thr bs h
  -- each of the three is `p'.gzip` read back from where `pack` put it
  refine ⟨_, rest, hbs, ?_, ?_, ?_⟩ <;> rw [← hflag]
  · rw [UInt8.toNat_ofNat']
    cases p'.verify <;> cases p'.gzip <;> rcases ht with rfl | rfl | rfl <;> decide
  · obtain ⟨_, _, e3, _⟩ := b0_fields v t (if p'.verify then 1 else 0) (if p'.gzip then 1 else 0) 0
      (by rcases ht with rfl | rfl | rfl <;> decide) (by split <;> decide) (by split <;> decide) (by decide)
    rw [e3]
    cases p'.gzip <;> decide
  · simp only [specOf]
    cases p'.gzip <;> decide

/-! non-vacuity -/
example : gzipCond .v1 1024 1024 = true ∧ gzipCond .v1 1024 1023 = false ∧ gzipCond .v2 0 5000 = false ∧
    gzipCond .v2 (-1) 0 = true := by decide
example : Gzip.allocDecompress [0x1f, 0x8b, 8, 0, 0xff, 0xff, 0xff, 0x7f] ≤ 8 * 1032 + 512 := by decide

/-! non-vacuity of the relayed case. `relayed`: a push packet as a decoder returns it for a compressed
frame (gzip flag set, the body the decompressed content, 3 bytes). `idGz`: the identity "compressor"
(the one of C01's examples), which is Sound. -/

def idGz : GzOracle := { compress := fun x => .ok x, read := fun c => some (c, true) }
def relayed : Packet := { type := .push, cmd := 7, gzip := true, body := [1, 2, 3] }

example : idGz.Sound := fun x => ⟨x, rfl, rfl⟩

/-- v1, threshold 0 (never compress): the frame's byte 0 is 0x03 — gzip bit (bit 5, mask 0x20) CLEAR
although the packet came in flagged —, the body goes out as it is, and `UnpackBytes` returns it -/
example :
    pack .v1 idGz relayed 0 = .ok ([0x03, 7, 0, 0, 3, 1, 2, 3], { relayed with gzip := false }) ∧
    (0x03 : UInt8) &&& 0x20 = 0 ∧ (0x03 : UInt8).toNat / 32 % 2 = 0 ∧
    unpackBytes .v1 idGz 0 [0x03, 7, 0, 0, 3, 1, 2, 3] = .ok { type := .push, cmd := 7, body := [1, 2, 3] } := by decide +kernel

/-- v1, threshold 3 ≤ 3 bytes (engages): byte 0 is 0x23 — gzip bit SET -/
example :
    pack .v1 idGz relayed 3 = .ok ([0x23, 7, 0, 0, 3, 1, 2, 3], relayed) ∧
    (0x23 : UInt8) &&& 0x20 = 0x20 ∧ (0x23 : UInt8).toNat / 32 % 2 = 1 ∧
    unpackBytes .v1 idGz 0 [0x23, 7, 0, 0, 3, 1, 2, 3] = .ok relayed := by decide +kernel

/-- v2 (two more header bytes: metadata_len = 0), threshold 0: gzip bit clear, body returned.
(`decide +kernel`: `pack .v2` runs the metadata block's merge sort, which only the kernel unfolds.) -/
example :
    pack .v2 idGz relayed 0 = .ok ([0x03, 7, 0, 0, 0, 0, 3, 1, 2, 3], { relayed with gzip := false }) ∧
    (0x03 : UInt8) &&& 0x20 = 0 ∧
    unpackBytes .v2 idGz 0 [0x03, 7, 0, 0, 0, 0, 3, 1, 2, 3] = .ok { type := .push, cmd := 7, body := [1, 2, 3] } := by
  decide +kernel

/-- v2, threshold 3 (engages): gzip bit set -/
example :
    pack .v2 idGz relayed 3 = .ok ([0x23, 7, 0, 0, 0, 0, 3, 1, 2, 3], relayed) ∧
    (0x23 : UInt8) &&& 0x20 = 0x20 ∧
    unpackBytes .v2 idGz 0 [0x23, 7, 0, 0, 0, 0, 3, 1, 2, 3] = .ok relayed := by
  decide +kernel

/-- the hypotheses of `relayed_packet_flag` are jointly satisfiable (both versions), and its conclusion
is what the first and third example show -/
example : relayed.gzip = true ∧ gzipCond .v1 0 relayed.body.length = false ∧ gzipCond .v2 0 relayed.body.length = false ∧
    (pack .v1 idGz relayed 0).isOk = true := by decide

end OAP.C10

/-! ## concurrent use of the pooled compressors (Pool view)

"… ALSO UNDER CONCURRENT USE: N goroutines sharing the pooled compressors/decompressors get the same results as
sequential calls." Small-step interleaving model `OAP.Pool` (generic) with the instances `PoolGzip.WB` (writer pool)
and `PoolGzip.RB` (reader pool); the theorems quantify over EVERY interleaving (`acts`) and EVERY initial pool content. -/
namespace OAP.C10
open OAP OAP.Frame OAP.Pool OAP.PoolGzip

/-- `pool_exclusive`, generic: any pooled object whose `Reset` erases (`ResetErases`), any number of threads, any
interleaving of their get / reset / use / park / resume / finish(put or drop) steps and of the pool's own drops, any
initial pool (`InitOk`: no duplicates, identities below the allocation counter) with ARBITRARY stale object states:
a thread that has finished the call `Reset(i); use u₁ … use uₖ` has returned `seqResult i [u₁ … uₖ]`, the result of
that call made alone on a fresh object. -/
theorem pool_exclusive {σ In U Out : Type} (B : Beh σ In U Out) (he : B.ResetErases)
    (pool : List Nat) (obj : Nat → σ) (next : Nat) (h0 : InitOk pool next)
    (acts : List (Act In U)) (s : St σ In U Out) (h : Pool.run B (Pool.init pool obj next) acts = some s)
    (t : Nat) (i : In) (us : List U) (out : Out) (hf : s.pc t = .fin i us out) : out = B.seqResult i us :=
  Pool.pool_exclusive B he pool obj next h0 acts s h t i us out hf

/-- the ownership half: in every reachable state no two threads hold the same object, a held object is not in the
pool, and the pool holds no object twice -/
theorem no_shared_object {σ In U Out : Type} (B : Beh σ In U Out) (he : B.ResetErases)
    (pool : List Nat) (obj : Nat → σ) (next : Nat) (h0 : InitOk pool next)
    (acts : List (Act In U)) (s : St σ In U Out) (h : Pool.run B (Pool.init pool obj next) acts = some s) :
    (∀ t u o, t ≠ u → (s.pc t).holds = some o → (s.pc u).holds ≠ some o) ∧
    (∀ t o, (s.pc t).holds = some o → o ∉ s.pool) ∧ s.pool.Nodup :=
  Pool.no_shared_object B he pool obj next h0 acts s h

/-- "the same results as sequential calls", literally: for any list of calls by distinct threads the SERIAL schedule
(one call after the other, all on one recycled object) is a run, and a thread that has finished one of these calls in
an arbitrary interleaving is in the same final state — same input, same uses, same result — as in the serial run -/
theorem concurrent_eq_serial {σ In U Out : Type} (B : Beh σ In U Out) (he : B.ResetErases)
    (pool : List Nat) (obj : Nat → σ) (next : Nat) (h0 : InitOk pool next)
    (acts : List (Act In U)) (s : St σ In U Out) (h : Pool.run B (Pool.init pool obj next) acts = some s)
    (cs : List (Call In U)) (hnd : (cs.map (·.1)).Nodup) (c : Call In U) (hc : c ∈ cs) (out : Out)
    (hf : s.pc c.1 = .fin c.2.1 c.2.2 out) :
    ∃ s', Pool.run B (Pool.init pool obj next) (serialActs next cs) = some s' ∧ s'.pc c.1 = s.pc c.1 := by
  obtain ⟨s', hr, hall⟩ := serial_run B he pool obj next h0 cs hnd
  exact ⟨s', hr, by rw [hall c hc, hf, Pool.pool_exclusive B he pool obj next h0 acts s h c.1 c.2.1 c.2.2 out hf]⟩

/-- N concurrent `gzip.Compress` calls over the shared `poolCompressor`: each returns `gz.compress` of ITS input (of
the concatenation of its writes), and no two of them ever hold the same writer -/
theorem compress_concurrent_eq_seq (gz : GzOracle) (pool : List Nat) (obj : Nat → Bytes) (next : Nat)
    (h0 : InitOk pool next) (acts : List (Act Unit Bytes)) (s : St Bytes Unit Bytes (Res Bytes))
    (h : Pool.run (WB gz) (Pool.init pool obj next) acts = some s) :
    (∀ t x out, s.pc t = .fin () [x] out → out = gz.compress x) ∧
    (∀ t ps out, s.pc t = .fin () ps out → out = gz.compress ps.flatten) ∧
    (∀ t u o, t ≠ u → (s.pc t).holds = some o → (s.pc u).holds ≠ some o) :=
  PoolGzip.compress_concurrent_eq_seq gz pool obj next h0 acts s h

/-- N concurrent `gzip.Decompress` calls over the shared `poolDecompressor` — readers put back on EOF and after a
failed Reset, DROPPED after a stream error: each returns its sequential result; one that ran to its end (`Done`: what
`ReadFrom` does) returns `Gzip.decompress gz` of ITS input, however its reads were chunked -/
theorem decompress_concurrent_eq_seq (gz : GzOracle) (pool : List Nat) (obj : Nat → RState) (next : Nat)
    (h0 : InitOk pool next) (acts : List (Act Bytes Nat)) (s : St RState Bytes Nat (Res Bytes))
    (h : Pool.run (RB gz) (Pool.init pool obj next) acts = some s) :
    (∀ t src ns out, s.pc t = .fin src ns out → out = (RB gz).seqResult src ns) ∧
    (∀ t src ns out, s.pc t = .fin src ns out → Done gz src ns → out = Gzip.decompress gz src) ∧
    (∀ t u o, t ≠ u → (s.pc t).holds = some o → (s.pc u).holds ≠ some o) :=
  PoolGzip.decompress_concurrent_eq_seq gz pool obj next h0 acts s h

/-- Compress followed by Decompress is the identity also when both run among concurrent users of the two pools -/
theorem roundtrip_concurrent (gz : GzOracle) (hs : gz.Sound)
    (pool : List Nat) (obj : Nat → Bytes) (next : Nat) (h0 : InitOk pool next)
    (acts : List (Act Unit Bytes)) (s : St Bytes Unit Bytes (Res Bytes))
    (h : Pool.run (WB gz) (Pool.init pool obj next) acts = some s)
    (pool' : List Nat) (obj' : Nat → RState) (next' : Nat) (h0' : InitOk pool' next')
    (acts' : List (Act Bytes Nat)) (s' : St RState Bytes Nat (Res Bytes))
    (h' : Pool.run (RB gz) (Pool.init pool' obj' next') acts' = some s')
    (t t' : Nat) (x c : Bytes) (ns : List Nat) (out : Res Bytes)
    (hf : s.pc t = .fin () [x] (.ok c)) (hf' : s'.pc t' = .fin c ns out) (hd : Done gz c ns) : out = .ok x :=
  PoolGzip.roundtrip_concurrent gz hs pool obj next h0 acts s h pool' obj' next' h0' acts' s' h' t t' x c ns out hf hf' hd

/-- the theorem is not vacuous and its hypotheses are needed: each of the four classic pool bugs is expressible in the
model and breaks it on a concrete run (decided) — a double `Put`, a `Put` before the last use, a `Reset` that keeps
one field, a `New` that hands out one shared object -/
theorem pool_bugs_break_it :
    -- double put: two threads hold object 0 at once
    (runWith (stepDoublePut accB) emptyInit
      [.get 0 5 none, .reset 0, .finish 0 true, .get 1 1 (some 0), .get 2 2 (some 0)]).map
        (fun s => ((s.pc 1).holds, (s.pc 2).holds)) = some (some 0, some 0) ∧
    -- use after put: thread 0 returns 205 for a call whose result alone is 105
    ((runWith (stepEarlyPut accB) emptyInit
      [.get 0 1 none, .reset 0, .get 1 2 (some 0), .reset 1, .use 0 5, .finish 0 true]).map (fun s => s.pc 0) =
        some (.fin 1 [5] 205) ∧ accB.seqResult 1 [5] = 105) ∧
    -- stale reset: the same call returns 145 on one recycled object and 135 on another
    ((Pool.run leakyB demoInit [.get 0 1 (some 0), .reset 0, .use 0 5, .finish 0 true]).map (fun s => s.pc 0) =
        some (.fin 1 [5] 145) ∧
     (Pool.run leakyB demoInit [.get 0 1 (some 1), .reset 0, .use 0 5, .finish 0 true]).map (fun s => s.pc 0) =
        some (.fin 1 [5] 135)) ∧
    -- shared New: two misses hand out the same object
    (runWith (stepSharedNew accB) emptyInit [.get 0 1 none, .get 1 2 none]).map
        (fun s => ((s.pc 0).holds, (s.pc 1).holds)) = some (some 0, some 0) :=
  ⟨double_put_breaks.1, ⟨use_after_put_breaks.2.1, use_after_put_breaks.2.2⟩,
   ⟨stale_reset_breaks.1, stale_reset_breaks.2.1⟩, shared_new_breaks.1⟩

/-- T2 structure facts, regenerated from go/gzip/gzip.go on every run: the statements of the eight functions that
touch the two pools, each the model step named in `OAP.Model.PoolGzip`.
`compressor.Compress`: `Get` (model `get`: hit or miss) then `z.Writer.Reset(w)` (model `reset`; `ResetErases` is the
  assumption on compress/gzip) — nothing between them, the writer is not touched before its Reset.
`writer.Close`: `defer z.pool.Put(z)` + `return z.Writer.Close()`: model `finish … true` — ONE Put per Close, after the
  stream is finished, on every path.
`compressor.Decompress`: `Get`; miss (`!inPool`, this pool has no `New`) → `gzip.NewReader(r)` = model `get none` + `reset`,
  on error `return nil, err` with nothing pooled (`finish … false`); hit → `z.Reset(r)` (model `reset`), on error
  `c.poolDecompressor.Put(z)` + return (`finish … true`: put back on a Reset error).
`reader.Read`: the underlying Read (model `use`), then `if err == io.EOF { z.pool.Put(z) }` — Put on io.EOF ONLY
  (`finish … true`); with any other error the reader is never put (`finish … false`: dropped).
`Compress`: a new private buffer, `defaultCompressor.Compress(buf)`, ONE `z.Write(in)`, ONE `z.Close()`, then
  `buf.Bytes()`: the call `Reset; use in; finish` of `compress_concurrent_eq_seq`; the writer does not escape.
`Decompress`: `defaultCompressor.Decompress(r)` then `buf.ReadFrom(or)` — which returns at the first io.EOF or error, so
  `Read` is not called again after the Put (no double put, no use after put); the reader does not escape.
`init` / `SetLevel`: `poolCompressor.New` is a closure whose body is `return &writer{Writer: gzip.NewWriter(…), …}` /
  `w, err := gzip.NewWriterLevel(…) … return &writer{Writer: w, …}`: the writer is allocated INSIDE the closure, at every
  call — the model's fresh identities (`get … none` hands out `next`, invariant clauses `poolLt` / `heldLt`); a closure
  returning a captured writer would be `Pool.stepSharedNew`, for which the theorem fails (`shared_new_breaks`).
  (`SetLevel` replaces `New` only — documented "not thread-safe, init time only"; the pooled writers keep their level.) -/
theorem pool_source :
    Gen.stmts_gzip_compressor_Compress = ["z := c.poolCompressor.Get().(*writer)", "z.Writer.Reset(w)", "return z, nil"] ∧
    Gen.stmts_gzip_writer_Close = ["defer z.pool.Put(z)", "return z.Writer.Close()"] ∧
    Gen.stmts_gzip_compressor_Decompress = ["z, inPool := c.poolDecompressor.Get().(*reader)", "if !inPool { newZ, err := gzip.NewReader(r) if err != nil { return nil, err } return &reader{Reader: newZ, pool: &c.poolDecompressor}, nil }", "if err := z.Reset(r); err != nil { c.poolDecompressor.Put(z) return nil, err }", "return z, nil"] ∧
    Gen.stmts_gzip_reader_Read = ["n, err = z.Reader.Read(p)", "if err == io.EOF { z.pool.Put(z) }", "return n, err"] ∧
    Gen.stmts_gzip_Compress = ["buf := &bytes.Buffer{}", "var z io.WriteCloser", "if z, err = defaultCompressor.Compress(buf); err != nil { err = errors.Wrap(err, \"create gzip writer\") return }", "if _, err = z.Write(in); err != nil { err = errors.Wrap(err, \"compress data\") return }", "if err = z.Close(); err != nil { err = errors.Wrap(err, \"finish gzip compress\") return }", "out = buf.Bytes()", "return"] ∧
    Gen.stmts_gzip_Decompress = ["r := bytes.NewReader(in)", "var or io.Reader", "if or, err = defaultCompressor.Decompress(r); err != nil { err = errors.Wrap(err, \"create gzip reader\") return }", "dsize := defaultCompressor.DecompressedSize(in)", "if max := len(in) * maxExpansionRatio; dsize < 0 || dsize > max { dsize = max }", "buf := bytes.NewBuffer(make([]byte, 0, dsize+bytes.MinRead))", "var rn int64", "rn, err = buf.ReadFrom(or)", "n = int(rn)", "out = buf.Bytes()", "return"] ∧
    Gen.stmts_gzip_SetLevel = ["if level < gzip.DefaultCompression || level > gzip.BestCompression { return fmt.Errorf(\"grpc: invalid gzip compression level: %d\", level) }", "defaultCompressor.poolCompressor.New = func() interface{} { w, err := gzip.NewWriterLevel(ioutil.Discard, level) if err != nil { panic(err) } return &writer{Writer: w, pool: &defaultCompressor.poolCompressor} }", "return nil"] ∧
    Gen.stmts_gzip_init = ["defaultCompressor = &compressor{}", "defaultCompressor.poolCompressor.New = func() interface{} { return &writer{Writer: gzip.NewWriter(ioutil.Discard), pool: &defaultCompressor.poolCompressor} }"] :=
  ⟨rfl, rfl, rfl, rfl, rfl, rfl, rfl, rfl⟩

/-! ### the oracle made concrete: a native gzip (`Model/Inflate.lean`, `Proofs/Inflate.lean`)

Every theorem above takes compress/gzip as a parameter `gz : GzOracle` and, where it needs it, the hypothesis `gz.Sound`. Here the
parameter is INSTANTIATED by code written in Lean: `Inflate.gunzip` — the RFC 1952 container as Go's reader accepts it (magic, CM,
flag bits, FEXTRA/FNAME/FCOMMENT/FHCRC, multistream as the library's `Decompress` uses it), the RFC 1951 inflater (stored, fixed and
dynamic Huffman blocks with Go's acceptance rules for incomplete and over-subscribed codes) and CRC-32 — and `Inflate.storedGzip`, a
compressor emitting stored blocks. So `gz.Sound` is satisfiable by an actual gzip implementation (not only by the identity), the
expansion bound C04 relies on is a theorem of that implementation, and the harness compares the REAL `Decompress` with this reader on
every stream of the C10/C04 batches (`gunzip hex=…` lines: valid, truncated at every byte, corrupted, multi-member, hostile trailers). -/

/-- the native gzip is a sound oracle: reading what its compressor produced yields the input, whole and valid — for every input -/
theorem native_oracle_sound : Inflate.nativeGz.Sound := Inflate.nativeGz_sound

/-- hence Decompress ∘ Compress = id holds outright for the native gzip, no hypothesis left -/
theorem decompress_compress_native (x : Bytes) :
    Gzip.decompress Inflate.nativeGz (Inflate.storedGzip x) = .ok x := by
  simp [Gzip.decompress, Inflate.nativeGz, Inflate.gunzip_storedGzip]

/-- what the native reader accepts it returns in full, and its output is at most 1032 × the input (DEFLATE's maximum
expansion): the bound `alloc_gzip` and C04's allocation check assume of the library is a THEOREM of this implementation — for
every byte string it accepts, all members of a multi-member stream together. `Gzip.decompress` is `.ok` only for a complete
valid stream (`decompress_ok_iff`); that the prefix produced before an error obeys the same bound is `Inflate.gunzip_bound` -/
theorem native_decompress_bounded (bs out : Bytes) (h : Gzip.decompress Inflate.nativeGz bs = .ok out) :
    out.length ≤ bs.length * Gzip.maxExpansion := by
  rw [Nat.mul_comm]
  exact Inflate.gunzip_bound ((decompress_ok_iff _ bs out).mp h)

/-- first-member reading (`Multistream(false)`) of a native stream followed by anything yields the member's content -/
theorem native_first_member (x rest : Bytes) : Inflate.gunzipFirst (Inflate.storedGzip x ++ rest) = some (x, true) := by
  simp [Inflate.gunzipFirst, Inflate.gzMember_storedGzip]

/-- non-vacuity: concrete streams through the native reader -/
example : Inflate.gunzip (Inflate.storedGzip [104, 105]) = some ([104, 105], true) := by decide +kernel
example : Inflate.gunzip [0x1f, 0x8b, 8, 0] = none := by decide +kernel
example : Inflate.gunzip [0x1f, 0x8c, 8, 0, 0, 0, 0, 0, 0, 0xff, 1, 0, 0, 0xff, 0xff, 0, 0, 0, 0, 0, 0, 0, 0] = none := by decide +kernel
example : Inflate.gunzip [0x1f, 0x8b, 8, 0, 0, 0, 0, 0, 0, 0xff, 1, 0, 0, 0xff, 0xff, 0, 0, 0, 0, 0, 0, 0, 0] = some ([], true) := by decide +kernel

end OAP.C10
