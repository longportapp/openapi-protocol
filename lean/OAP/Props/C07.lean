/-
C07 — A response that arrives in time is never lost. Property theorems only.
"In time" in the model: the response is dispatched while the call is in flight on the current connection and
has not yet taken its deadline branch. The order-sensitive invariant behind it — a call whose request has been
handed to the transport IS registered (`inTab`) — holds in every reachable state because `Do` registers first.
-/
import OAP.Props.C05
namespace OAP.C07
open OAP.Waiters

/-- T2 structure facts, regenerated from go/client on every run (the operations themselves, in source order): `Do` registers its receiver BEFORE handing the request to the transport and waits afterwards (unregister is deferred); the dispatcher's hand-off is a non-blocking send; the wait is a select with a deadline branch and a client-closed branch; the latter looks into the slot once more before it gives up (model: `wake` when the slot is full, `giveUp` otherwise — a response dispatched before the user's Close is still returned; D24) -/
theorem source_order :
    Gen.seq_client_Do = ["c.RLock", "defer:c.RUnlock", "protocol.NewRequest", "c.register", "defer:c.unregister", "conn.Write", "c.recv"] ∧
    Gen.seq_client_handleResponse = ["c.recvsMu.RLock", "defer:c.recvsMu.RUnlock", "select", "send:w.ch", "default"] ∧
    Gen.seq_client_recv = ["select", "recv:w.ch", "recv:ctx.Done()", "recv:c.closeCh", "select", "recv:w.ch", "default"] :=
  ⟨rfl, rfl, rfl⟩

/-- in every reachable state a call in flight on the live connection, still waiting with an empty slot, is in
the waiter table under its id — also immediately after the hand-over to the transport, before it started waiting -/
theorem written_is_registered (s : St) (hs : Reachable s) (i r : Nat)
    (hw : s.call i = .written s.cur r ∨ s.call i = .registered s.cur r) (he : s.chan i = .empty) :
    s.recvs r = some (i, s.cur) :=
  (inv_reachable s hs).inTab i r hw he

/-- NO LOST WAKE-UP: the matching response, dispatched at any such moment, lands in the call's slot (the 1-slot
buffer makes the hand-off non-blocking) … -/
theorem dispatch_delivers (s : St) (hs : Reachable s) (i r : Nat) (p : Pkt)
    (hw : s.call i = .written s.cur r ∨ s.call i = .registered s.cur r) (he : s.chan i = .empty)
    (hr : p.rid = r) (hc : p.conn = s.cur) :
    step s (.dispatch p) = some { s with chan := upd s.chan i (.full p) } := by
  have ht := written_is_registered s hs i r hw he
  simp [step, hr, ht, hc, he]

/-- … stays there whatever else happens (see C05.first_wins) until the call's own next step, and that step returns it -/
theorem wake_returns (s : St) (i c r : Nat) (p : Pkt) (hw : s.call i = .written c r) (hf : s.chan i = .full p) :
    ∃ s', step s (.wake i) = some s' ∧ s'.call i = .returning c r (some p) ∧
      ∃ s'', step s' (.finish i) = some s'' ∧ s''.call i = .done c r (some p) := by
  refine ⟨_, by simp [step, hw, hf]; rfl, by simp [upd], _, by simp [step, upd]; rfl, by simp [upd]⟩

/-- the call is never stuck: while it is in flight its deadline branch `giveUp` is enabled, whatever its slot holds (`wake`
on a full slot: `wake_returns`) -/
theorem written_can_step (s : St) (i c r : Nat) (hw : s.call i = .written c r) :
    (step s (.giveUp i)).isSome = true := by
  simp [step, hw]

/-- the PINNED order loses the wake-up: write, dispatch, register — the response finds no receiver (defect D8) -/
theorem pinned_loses : (Pinned.run Pinned.init [.write 7, .dispatch 7 42, .register]).map (·.lost) = some [7] := by
  decide

/-! non-vacuity: the same schedule on the repaired order — the call is registered before the write, the response
dispatched right after the hand-over is delivered and returned -/
example : (run init [.start 7 1, .write 7 true, .dispatch ⟨0, 1, 42⟩, .wake 7, .finish 7]).map (·.call 7)
    = some (.done 0 1 (some ⟨0, 1, 42⟩)) := by decide

/-- T2 structure fact shared with C19: the ids of concurrent calls are distinct because the generator is one atomic add-and-fetch
(two calls with one id would overwrite each other's waiter: a lost or mis-routed response) -/
theorem id_generator_atomic :
    Gen.stmts_GetRequestIDGen = ["var id uint32", "return func() uint32 { return atomic.AddUint32(&id, 1) }"] :=
  rfl

end OAP.C07
