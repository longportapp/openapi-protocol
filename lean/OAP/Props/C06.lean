/-
C06 — Request calls always terminate and never crash the process. Property theorems only.
Safety core, for every interleaving of the modelled threads (view Quartet: Close, a connection's reader running
conn.Close → close callback → reconnecting, the retry goroutine; view Waiters: the calls): no self-deadlock / lock
upgrade, no state in which every unfinished thread is blocked, every wait of a request call in the Waiters view has a
deadline alternative.  The call's `RLock` is on view LockWait (last section): after Close's signal a call has an enabled
step that is not its deadline, or waits in `RLock` behind a writer while a goroutine step that is no timer is enabled.
Liveness under the Go scheduler and the wall-clock bound are checked on scenarios (partial).
-/
import OAP.Model.Client.Quartet
import OAP.Model.Client.SingleFlight
import OAP.Proofs.Waiters
import OAP.Gen.Facts
import OAP.Model.Client.LockWait
namespace OAP.C06

/-- T2 structure facts, regenerated from go/client on every run (the operations themselves, in source order): closeByServer closes the conn WITHOUT holding the client lock; Do holds the read lock for the whole call and checks conn before use; the close notification checks the closed signal first -/
theorem source_order :
    Gen.seq_client_closeByServer = ["conn.Close", "c.reconnecting"] ∧
    Gen.seq_client_Do = ["c.RLock", "defer:c.RUnlock", "protocol.NewRequest", "c.register", "defer:c.unregister", "conn.Write", "c.recv"] ∧
    Gen.seq_client_onConnClose = ["select", "recv:c.closeCh", "default", "c.reconnecting"] :=
  ⟨rfl, rfl, rfl⟩


/-- LOCK DISCIPLINE + NO DEADLOCK: in every reachable state of the lifecycle quartet (user Close; a reader whose
read error runs conn.Close → close callback → reconnecting with the write lock, the flag, the spawned retry goroutine
and the rendez-vous; the retry goroutine re-dialling under the write lock) Close's nested conn.Close never enters
reconnecting — no read→write upgrade on the client lock, the defect D5 of the pinned tree — and it is never the case
that all unfinished threads are blocked (RWMutex, the connection's Once, the wait for the retry goroutine). -/
theorem lock_discipline_no_deadlock (acts : List Quartet.Act) (s : Quartet.St) (h : Quartet.run Quartet.init acts = some s) :
    s.closerReconnects = false ∧
    ((Quartet.cActive s ∨ Quartet.rActive s ∨ Quartet.kActive s) →
      ¬ ((Quartet.cActive s → Quartet.cBlocked s) ∧ (Quartet.rActive s → Quartet.rBlocked s) ∧
         (Quartet.kActive s → Quartet.kBlocked s))) :=
  Quartet.quartet_safe acts s h

/-- the writers of the client lock are single-flight: at most one retry goroutine is ever alive, so the write lock is
requested by at most one recovery at a time, whatever number of loss notifications arrive -/
theorem single_flight (acts : List SingleFlight.Act) (s : SingleFlight.St) (h : SingleFlight.run SingleFlight.init acts = some s)
    (t u : Nat) (ht : SingleFlight.rAlive (s.rc t)) (hu : SingleFlight.rAlive (s.rc u)) : t = u :=
  SingleFlight.single_flight acts s h t u ht hu

/-- DO'S WAITS ARE TIMED: a call in flight can always take its deadline branch (the wait for the response is a select
with a deadline), a call with a registered waiter can always finish its write (the enqueue is non-blocking, see C12),
and an idle call can always start — no state of the Waiters view blocks a call -/
theorem do_waits_timed (s : Waiters.St) (i : Nat) :
    (∀ c r, s.call i = .written c r → (Waiters.step s (.giveUp i)).isSome = true) ∧
    (∀ c r, s.call i = .registered c r → (Waiters.step s (.write i true)).isSome = true ∧ (Waiters.step s (.write i false)).isSome = true) ∧
    (∀ rid, s.call i = .idle → s.issued rid = false → (Waiters.step s (.start i rid)).isSome = true) := by
  refine ⟨?_, ?_, ?_⟩
  · intro c r h; simp [Waiters.step, h]
  · intro c r h; simp [Waiters.step, h]
  · intro rid h hi; simp [Waiters.step, h, hi]

/-- a call whose waiter was closed by the recovery's fail-all wakes up with no packet (`returning … none`: an error, not a
nil packet), by a plain transition, and its `finish` is then enabled -/
theorem failed_waiter_returns_error (s : Waiters.St) (i c r : Nat) (h : s.call i = .written c r) (hc : s.chan i = .closed) :
    Waiters.step s (.wake i) = some { s with call := Waiters.upd s.call i (.returning c r none) } ∧
    (∀ s', s'.call i = Waiters.CallPc.returning c r none → (Waiters.step s' (.finish i)).isSome = true) := by
  refine ⟨by simp [Waiters.step, h, hc], ?_⟩
  intro s' h'; simp [Waiters.step, h']


/-- T2 structure fact: the write helper that keepalive's ping calls WHILE HOLDING the client read lock takes no lock itself (a second,
recursive read lock would deadlock against a recovery that asks for the write lock in between) -/
theorem write_helper_lock_free :
    Gen.seq_client_write = ["c.conn.Write"] :=
  rfl

/-! ### view LockWait: after Close a request call does not depend on its deadline -/

/-- NO REQUEST CALL IS LEFT TO ITS DEADLINE once the client is closed: in every reachable state with the close signal set,
a caller inside `Do` has an enabled step of its own that is not its timeout (at the select of `recv`: `case <-c.closeCh`), or
it is blocked in `RLock` behind a writer and then some goroutine step that is neither a timer nor the peer's is enabled.
This is enabledness in ONE state; that the call does return is the budget of `C14.close_returns_promptly` (5), for the
schedules that use the budget up -/
theorem request_returns_after_close (acts0 : List LockWait.Act) (s : LockWait.St)
    (h0 : LockWait.run LockWait.init acts0 = some s) (hc : s.closeSig = true)
    (i : Nat) (h1 : s.dpc i ≠ .idle) (h2 : s.dpc i ≠ .ret) :
    (∃ a, LockWait.isDo i a = true ∧ LockWait.isProg a = true ∧ LockWait.enabled s a) ∨
    (s.dpc i = .wantR ∧ (s.writer ≠ none ∨ s.pendW ≠ 0) ∧ ∃ a, LockWait.isProg a = true ∧ LockWait.enabled s a) :=
  LockWait.do_returns_after_close acts0 s h0 hc i h1 h2

/-- what the atomic fast path of `reconnecting` buys the requests (variant `noFastPath`, D24 repaired, D20 not): with a
recovery running and its auth request waiting, a second notifier of the same loss queues in `Lock()` and from then on the
`RLock` of EVERY `Do` is refused — in every continuation without the auth timeout, without an answer to the auth request
and without a Close: every request is delayed by up to the auth timeout -/
theorem no_fast_path_blocks_requests :
    ∃ s, LockWait.runV .noFastPath LockWait.init LockWait.demoC = some s ∧ s.dpc 0 = .wantR ∧ s.rc = .aWait false ∧
      ∀ acts s', (∀ a ∈ acts, LockWait.quietC a = true) → LockWait.runV .noFastPath s acts = some s' →
        s'.dpc 0 = .wantR ∧ s'.rc = .aWait false ∧
        (∀ i, s'.dpc i = .wantR → LockWait.stepV .noFastPath s' (.d i) = none) :=
  LockWait.no_fast_path_blocks_do_partial

end OAP.C06
