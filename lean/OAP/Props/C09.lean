/-
C09 — Metadata block codec: canonical, bounded, all-or-nothing pairs.
Property theorems only (helpers in OAP/Proofs/Metadata.lean and OAP/Model/Metadata.lean).
`lower` (strings.ToLower) is arbitrary in every statement.
-/
import OAP.Proofs.Metadata
import OAP.Proofs.GenFuncsMd
namespace OAP.C09
open OAP OAP.Metadata

/-- a string is refused as too long exactly above 32767 bytes … -/
theorem marshalString_none_iff (s : Bytes) : marshalString s = none ↔ 32767 < s.length := by
  constructor
  · intro h
    by_cases hl : s.length ≤ 32767
    · rw [marshalString_eq s hl] at h; cases h
    · omega
  · exact marshalString_none s

/-- … and otherwise gets the canonical prefix: one byte up to 127, two bytes with the top bit set above -/
theorem marshalString_canonical (s : Bytes) (h : s.length ≤ 32767) :
    marshalString s = some (encLen s.length ++ s) ∧
    (encLen s.length).length = (if s.length ≤ 127 then 1 else 2) := by
  refine ⟨marshalString_eq s h, ?_⟩
  unfold encLen; split <;> simp

/-- the length decoder inverts the length encoder for every representable length -/
theorem strlen_roundtrip (s : Bytes) (h : s.length ≤ 32767) :
    ∃ out, marshalString s = some out ∧
      unmarshalStringLength out = .ok (s.length, if s.length ≤ 127 then len7 else len15) :=
  ⟨enc s, marshalString_eq s h, usl_encLen s.length s h⟩

/-- a two-byte prefix whose value fits one byte is rejected (non-canonical) -/
theorem strlen_rejects_noncanonical (b0 b1 : UInt8) (rest : Bytes) (hb : 128 ≤ b0.toNat)
    (h : (b0.toNat - 128) * 256 + b1.toNat ≤ 127) :
    ∃ e, unmarshalStringLength (b0 :: b1 :: rest) = .err e := by
  rw [usl_hi b0 b1 rest hb]; simp [h]

/-- parser soundness, for ALL byte strings: whatever the decoder accepts is exactly the canonical
encoding of the pairs it returns — so truncated blocks, non-canonical prefixes and dangling keys are rejected -/
theorem decode_canonical (data : Bytes) (ps : List Pair) (h : rawPairs data = .ok ps) :
    data = encPairs ps ∧ ∀ kv ∈ ps, kv.1.length ≤ 32767 ∧ kv.2.length ≤ 32767 := by
  rw [rawPairs_eq] at h; exact pairsLoop_sound data ps h

/-- parser completeness: every canonical block of representable strings is accepted and yields its pairs -/
theorem decode_complete (ps : List Pair) (h : ∀ kv ∈ ps, kv.1.length ≤ 32767 ∧ kv.2.length ≤ 32767) :
    rawPairs (encPairs ps) = .ok ps :=
  rawPairs_encPairs ps h

/-- the decoder never panics and always terminates (it is a total function by well-founded
recursion on the remaining length; every string consumes at least one byte) -/
theorem decode_total (data : Bytes) : (rawPairs data).isPanic = false := rawPairs_noPanic data

/-- the block never exceeds the budget -/
theorem budget (o : List Pair) (max : Int) (h : 0 ≤ max) : ((marshalValues o max).length : Int) ≤ max :=
  marshalValues_budget o max h

/-- only whole pairs: the block is the canonical encoding of a prefix (in visiting order) of the
valid pairs — non-empty key, both strings ≤ 32767 — and it stops only when the next valid pair no
longer fits. Entries with an empty key or an over-long string are omitted entirely, nothing is truncated. -/
theorem whole_pairs (o : List Pair) (max : Int) :
    ∃ inc, inc <+: o.filter validPair ∧ marshalValues o max = encPairs inc ∧
      (inc = o.filter validPair ∨
        ∃ nxt tl, o.filter validPair = inc ++ nxt :: tl ∧
          ((encPair nxt).length + (encPairs inc).length : Int) > max) :=
  marshalValues_spec o max

/-- when every entry is valid and the whole map fits, everything is encoded -/
theorem marshal_all_fit (o : List Pair) (max : Int) (hv : ∀ kv ∈ o, validPair kv = true)
    (hfit : ((encPairs o).length : Int) ≤ max) : marshalValues o max = encPairs o :=
  marshalValues_all_fit o max hv hfit

/-- ROUND TRIP: encoding a valid map that fits the budget and decoding the result gives back the
same entries with lower-cased keys (in sorted key order) -/
theorem roundtrip (lower : Bytes → Bytes) (m : List Pair) (max : Int)
    (hv : ∀ kv ∈ m, validPair kv = true) (hfit : ((encPairs (sortPairs m)).length : Int) ≤ max) :
    unmarshalValues lower (marshalMap m max) = .ok ((sortPairs m).map (fun kv => (lower kv.1, kv.2))) := by
  rw [unmarshalValues, rawPairs_marshalMap m max hv hfit]; rfl

/-- the decoded entries are the map's entries: same multiset (hence same lookups when the lower-cased keys are distinct) -/
theorem roundtrip_perm (lower : Bytes → Bytes) (m : List Pair) :
    ((sortPairs m).map (fun kv => (lower kv.1, kv.2))).Perm (m.map (fun kv => (lower kv.1, kv.2))) :=
  (List.mergeSort_perm m keyLe).map _

/-- DETERMINISM: the block is a function of the map and the budget — any two orderings of the same
map (distinct keys, as in a Go map) give the same bytes -/
theorem deterministic (m₁ m₂ : List Pair) (max : Int) (hp : m₁.Perm m₂)
    (hk : (m₁.map (·.1)).Nodup) : marshalMap m₁ max = marshalMap m₂ max := by
  unfold marshalMap; rw [sort_unique m₁ m₂ hp hk]

/-- setting an over-long key or value is refused, anything else accepted -/
theorem set_guard (lower : Bytes → Bytes) (m : List Pair) (k v : Bytes) :
    (Metadata.set lower m k v).isOk = (decide (k.length ≤ 32767) && decide (v.length ≤ 32767)) := by
  unfold Metadata.set
  rw [maxString_eq]
  split
  · simp [Res.isOk]; omega
  · split <;> simp [Res.isOk] <;> omega

theorem set_get (lower : Bytes → Bytes) (m m' : List Pair) (k v : Bytes) (h : Metadata.set lower m k v = .ok m') :
    get lower m' k = v := by
  unfold Metadata.set at h
  split at h
  · cases h
  · split at h
    · cases h
    · cases h
      simp [Metadata.get, lookup]

/-! non-vacuity: concrete instances (hypotheses are satisfiable, statements are not empty) -/
example : rawPairs [1, 0x61, 1, 0x78] = .ok [([0x61], [0x78])] :=
  decode_complete [([0x61], [0x78])] (by decide)
example : validPair ([0x61], [0x78]) = true := by decide
example : marshalValues [([0x61], [0x78]), ([0x62], [0x79])] 7 = [1, 0x61, 1, 0x78] := by decide  -- budget cuts a whole pair
example : marshalValues [([], [0x78]), ([0x62], [0x79])] 100 = [1, 0x62, 1, 0x79] := by decide   -- empty key omitted
example : ∃ e, unmarshalStringLength [0x80, 0x05, 1, 2, 3, 4, 5] = .err e :=
  strlen_rejects_noncanonical 0x80 0x05 _ (by decide) (by decide)
example : (Metadata.set id [] (List.replicate 32768 0x61) []).isOk = false := by
  rw [set_guard, List.length_replicate]; decide

/-! ### generated translations of the two string-length helpers (T2, function level) -/

/-- `func marshalString(str string) (data []byte, tooLong bool)`, as translated from go/metadata.go in this run, is the model's
`marshalString` (`none` = tooLong with empty data) -/
theorem marshalString_is_generated (s : Bytes) :
    Gen.Fn.protocol_marshalString s =
      .ok (match marshalString s with | some d => (d, false) | none => ([], true)) :=
  GenFuncs.marshalString_gen s

/-- `func unmarshalStringLength(data []byte) (l int, bitSize uint8, err error)`, as translated from the source (the switch over the
size bit, the second-byte test, the canonical-form test, every index operation), is the model's function: same length, same size
bit, same error, and no index out of range on any input -/
theorem unmarshalStringLength_is_generated (data : Bytes) :
    Gen.Fn.protocol_unmarshalStringLength data = unmarshalStringLength data :=
  GenFuncs.unmarshalStringLength_gen data

/-- both helpers were inside the translatable subset in this run -/
theorem functions_translated :
    "protocol..marshalString" ∈ Gen.Fn.translated ∧ "protocol..unmarshalStringLength" ∈ Gen.Fn.translated := by decide +kernel

/-- the budget v2 `Pack` hands to the encoder (`v2.MaxMetadataLength`, regenerated) fits the 16-bit `metadata_len` field of the frame: a
block that exceeds it loses whole pairs (`budget`, `whole_pairs`), it can never lose the high bit of its length -/
theorem budget_fits_length_field : Gen.v2_MaxMetadataLength < 2 ^ 16 ∧ Gen.v2_MaxMetadataLength = 65535 := by decide

end OAP.C09
