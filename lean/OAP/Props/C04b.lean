/-
C04 (streaming part) — the streaming decoder never panics and always makes progress.
Property theorems only (helpers: OAP/Proofs/Ring.lean, Stream.lean, StreamRing.lean).
-/
import OAP.Model.Stream
import OAP.Proofs.StreamRing
namespace OAP.C04
open OAP OAP.Frame

/-- NO PANIC: `protocolVx.Unpack` over the ring never panics — for every well-formed ring (any
capacity, offsets, wrap position), any bytes in it, and ANY parked header (reachable or not) -/
theorem unpackRing_no_panic (v : Ver) (gz : GzOracle) (codec : UInt8) (pend : Option Header) (rb : Ring)
    (wf : rb.WF) (w : String) : (unpackRing v gz codec pend rb).res ≠ .panic w := by
  rw [(unpackRing_eq_abs v gz codec pend rb wf).1]
  exact unpackAbs_ne_panic v gz codec pend rb.abs w

/-- and it leaves a well-formed ring behind, so the next call is covered again -/
theorem unpackRing_wf (v : Ver) (gz : GzOracle) (codec : UInt8) (pend : Option Header) (rb : Ring)
    (wf : rb.WF) : (unpackRing v gz codec pend rb).rb.WF := (unpackRing_refines v gz codec pend wf.holds).wf

/-- the whole read loop over the ring never panics either (in particular the termination guard of
`runRing` never fires) -/
theorem drainRing_no_panic (v : Ver) (gz : GzOracle) (codec : UInt8) (pend : Option Header) (rb : Ring)
    (wf : rb.WF) (w : String) : (drainRing v gz codec pend rb).2.1 ≠ .panic w := by
  rw [(drainRing_abs v gz codec pend wf.holds).2.1]
  unfold drain
  split
  · exact run_ne_panic v gz codec w _
  · exact unpackAbs_ne_panic v gz codec pend rb.abs w

/-- PROGRESS (ring): from any state the decoder can be in (`PendOK`), a call that reports a packet
takes at least one byte off the ring -/
theorem progress (v : Ver) (gz : GzOracle) (codec : UInt8) (pend : Option Header) (rb : Ring)
    (wf : rb.WF) (hp : PendOK v pend) (p : Packet)
    (h : (unpackRing v gz codec pend rb).res = .pkt p) :
    (unpackRing v gz codec pend rb).rb.length < rb.length ∧ (unpackRing v gz codec pend rb).pend = none := by
  obtain ⟨u, hu⟩ := hp
  have := unpack_pkt_progress v gz codec pend u rb.abs p _ _ hu (by rw [(unpackRing_refines v gz codec pend wf.holds).eq, h])
  rw [Ring.length_abs _ (unpackRing_wf v gz codec pend rb wf), Ring.length_abs _ wf]
  exact ⟨this.1, this.2.2⟩

/-- PROGRESS (stream): in terms of the undelivered stream `u ++ rb.abs` (the bytes `u` of the current
frame already taken into the parked header, then the ring), every reported packet shrinks it by at
least a whole header: 5 bytes (v1), 7 bytes (v2) -/
theorem progress_unread (v : Ver) (gz : GzOracle) (codec : UInt8) (pend : Option Header) (u : Bytes)
    (rb : Ring) (wf : rb.WF) (hp : Parked v pend u) (p : Packet)
    (h : (unpackRing v gz codec pend rb).res = .pkt p) :
    (unpackRing v gz codec pend rb).rb.abs.length + pushLen v ≤ (u ++ rb.abs).length :=
  (unpack_pkt_progress v gz codec pend u rb.abs p _ _ hp (by rw [(unpackRing_refines v gz codec pend wf.holds).eq, h])).2.1

/-- PROGRESS (fresh context): a packet reported with no header parked consumes at least 5 (v1) /
7 (v2) bytes of the ring -/
theorem progress_fresh (v : Ver) (gz : GzOracle) (codec : UInt8) (rb : Ring) (wf : rb.WF) (p : Packet)
    (h : (unpackRing v gz codec none rb).res = .pkt p) :
    (unpackRing v gz codec none rb).rb.length + (match v with | .v1 => 5 | .v2 => 7) ≤ rb.length := by
  have := progress_unread v gz codec none [] rb wf .fresh p h
  rw [Ring.length_abs _ (unpackRing_wf v gz codec none rb wf), Ring.length_abs _ wf]
  cases v <;> simpa [pushLen, Gen.v1_PushHeaderLen, Gen.v2_PushHeaderLen] using this

/-- PROGRESS in terms of `unread` (the parked header re-encoded ++ the ring's bytes): a call that
reports a packet leaves an undelivered stream shorter by at least a whole header -/
theorem progress_unread_fn (v : Ver) (gz : GzOracle) (codec : UInt8) (pend : Option Header) (rb : Ring)
    (wf : rb.WF) (hp : PendOK v pend) (p : Packet)
    (h : (unpackRing v gz codec pend rb).res = .pkt p) :
    (unread v (unpackRing v gz codec pend rb).pend (unpackRing v gz codec pend rb).rb.abs).length + pushLen v
      ≤ (unread v pend rb.abs).length := by
  have := unpack_pkt_progress v gz codec pend _ rb.abs p _ _ ((parked_iff v pend).mp hp)
    (by rw [(unpackRing_refines v gz codec pend wf.holds).eq, h])
  rw [this.2.2]
  simpa [unread, s_hdrBytes] using this.2.1

/-- SOUNDNESS w.r.t. the one-shot decoder: a packet the streaming decoder completes from a fresh
context is EXACTLY (every field) what `UnpackBytes` returns on exactly the bytes consumed from the
ring. (On a longer input the one-shot decoder would return all trailing bytes as the signature;
the streaming decoder reads exactly 16 — on the frame's own bytes they coincide.) -/
theorem stream_matches_oneshot (v : Ver) (gz : GzOracle) (codec : UInt8) (rb : Ring) (wf : rb.WF)
    (p : Packet) (h : (unpackRing v gz codec none rb).res = .pkt p) :
    ∃ n, n ≤ rb.abs.length ∧ (unpackRing v gz codec none rb).rb.abs = rb.abs.drop n ∧
      unpackBytes v gz codec (rb.abs.take n) = .ok p :=
  stream_matches_oneshot_abs v gz codec rb.abs p _ _ (by rw [(unpackRing_refines v gz codec none wf.holds).eq, h])

/-- the same for errors raised after the header: once the whole frame is queued, the streaming body
phase and the one-shot decoder return the same packet or the same error -/
theorem body_matches_oneshot (v : Ver) (gz : GzOracle) (codec : UInt8) (bs : Bytes) (h : Header) (data : Bytes)
    (hh : Header.unpackBytes v bs = .ok (coreHdr h, data)) (hlen : data.length = needLen v h) :
    unpackBytes v gz codec bs = sresToRes (bodyFull v gz codec h data).1 :=
  unpackBytes_body v gz codec bs h data hh hlen

/-! non-vacuity and sharpness. `PendOK` is needed for `progress`: a context holding a complete header
of an empty frame (IsUnpacked, body length 0, no trailer) makes `Unpack` report a packet from an
empty ring without consuming anything. The decoder itself never parks such a header: a call that
completes a header goes on to the body in the same call and delivers an empty frame at once
(`Parked.header` carries `0 < needLen`, and `pendOK_preserved` proves the invariant). -/
example (gz : GzOracle) :
    (unpackRing .v1 gz 0 (some { isUnpacked := true, beginUnpack := true, type := 3 }) (Ring.new 4)).res
      = .pkt { type := .push } ∧
    (unpackRing .v1 gz 0 (some { isUnpacked := true, beginUnpack := true, type := 3 }) (Ring.new 4)).rb.length = 0 :=
  ⟨rfl, rfl⟩

/-- the hypotheses of `progress` are satisfiable: a parked byte-0 header, the rest of a v1 push frame
wrapped in the ring -/
example : PendOK .v1 (some (parse0 .v1 {} 3)) := ⟨[3], .byte0 3 (by decide)⟩
private def gz0 : GzOracle := ⟨fun _ => .err "none", fun _ => none⟩
example : (unpackRing .v1 gz0 0 (some (parse0 .v1 {} 3)) ⟨[0, 2, 9, 8, 0, 0, 7, 0], 8, 6, 4, false⟩).res =
    .pkt { type := .push, cmd := 7, body := [9, 8] } := by decide
/-- the one-shot decoder on the same frame -/
example : unpackBytes .v1 gz0 0 [3, 7, 0, 0, 2, 9, 8] = .ok { type := .push, cmd := 7, body := [9, 8] } := by
  decide
/-- `unread` of that parked state is the frame again -/
example : unread .v1 (some (parse0 .v1 {} 3)) [7, 0, 0, 2, 9, 8] = [3, 7, 0, 0, 2, 9, 8] := by decide

end OAP.C04
