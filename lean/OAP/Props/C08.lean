/-
C08 — Connection recovery re-establishes an authenticated session. Property theorems only.
The decision logic as a pure function over per-attempt outcomes (view Reconnect), for ALL outcome sequences and
configurations; single-flight / one recovery per loss over every interleaving (view SingleFlight, a slice without
`Close`), and the same questions on view Recovery, which mirrors `reconnecting` statement by statement and has `Close`: there
one recovery per loss holds while the client is open, and the unconditional statement is refuted.
-/
import OAP.Model.Client.Reconnect
import OAP.Model.Client.SingleFlight
import OAP.Gen.Facts
import OAP.Model.Client.Recovery
namespace OAP.C08
open OAP.Reconnect

/-- T2 structure facts, regenerated from go/client on every run (the operations themselves, in source order): reconnect(): old conn closed, waiters failed under their mutex, THEN dial, then auth / resume; the retry loop checks the closed signal at the top and before the callback, hit-max goes through Close; `reconnecting` reads the atomic `recovering` flag BEFORE it asks for the write lock and sets/clears it under that lock together with doReconnectting (D20's repair); reconnectDial falls back to auth -/
theorem source_order :
    Gen.seq_client_reconnect = ["c.stateMu.Lock", "c.stateMu.Unlock", "c.stateMu.Unlock", "c.RLock", "c.RUnlock", "old.Close", "c.recvsMu.Lock", "close:w.ch", "c.recvsMu.Unlock", "c.dial", "c.stateMu.Lock", "c.stateMu.Unlock", "c.isAuthExpired", "c.auth", "c.reconnectDial"] ∧
    Gen.seq_client_reconnecting = ["c.closed", "atomic.LoadInt32:&c.recovering", "c.Lock", "c.Unlock", "atomic.StoreInt32:&c.recovering=1", "c.Unlock", "go", "defer:send:waitCh", "c.closed", "c.reconnect", "c.closed", "c.afterReconnected", "c.Close", "time.Sleep", "recv:waitCh", "c.Lock", "atomic.StoreInt32:&c.recovering=0", "c.Unlock"] ∧
    Gen.seq_client_reconnectDial = ["c.Do", "c.auth", "c.stateMu.Lock", "c.stateMu.Unlock"] :=
  ⟨rfl, rfl, rfl⟩


/-- the stored session is presented exactly when there is one and it is unexpired (10 s safety margin) -/
theorem uses_session_iff_unexpired (cfg : Cfg) (st : RS) (env : Env) :
    Act.sendReconnect ∈ (attempt cfg st env).2.1 ↔
      (¬ (cfg.maxReconnect > 0 ∧ st.count ≥ cfg.maxReconnect)) ∧ env.dialOk = true ∧
      ∃ exp, st.session = some exp ∧ expired env.now exp = false :=
  Reconnect.uses_session_iff_unexpired cfg st env

/-- a session rejected as unauthenticated makes THE SAME attempt continue with a full authentication -/
theorem fallback_on_unauthenticated (cfg : Cfg) (st : RS) (env : Env) (exp : Nat)
    (hm : ¬ (cfg.maxReconnect > 0 ∧ st.count ≥ cfg.maxReconnect)) (hd : env.dialOk = true)
    (hs : st.session = some exp) (he : expired env.now exp = false)
    (hu : env.first = .unauthenticated) (ht : cfg.hasToken = true) :
    Act.sendAuth ∈ (attempt cfg st env).2.1 ∧
    ((attempt cfg st env).2.2 = .success ↔ ∃ e, env.second = .ok e) :=
  Reconnect.fallback_on_unauthenticated cfg st env exp hm hd hs he hu ht

/-- the configured maximum: an attempt gives up with hit-max exactly when the count has reached it -/
theorem hitmax_iff (cfg : Cfg) (st : RS) (env : Env) :
    (attempt cfg st env).2.2 = .hitMax ↔ (cfg.maxReconnect > 0 ∧ st.count ≥ cfg.maxReconnect) :=
  Reconnect.hitmax_iff cfg st env

/-- in every attempt the old connection is closed and the waiters are failed BEFORE the new dial -/
theorem old_closed_first (cfg : Cfg) (st : RS) (env : Env)
    (hm : ¬ (cfg.maxReconnect > 0 ∧ st.count ≥ cfg.maxReconnect)) :
    ∃ rest, (attempt cfg st env).2.1 = [.closeOld, .failWaiters, .dial] ++ rest :=
  Reconnect.old_closed_first cfg st env hm

/-- the after-reconnect callback is reported exactly when the loop ended with a successful attempt and is then the last
action; hit-max ends with the close (reported through the close callback) and never reports a reconnect -/
theorem after_cb_only_on_success (cfg : Cfg) (es : List Env) (st : RS) :
    ((recover cfg st es).2.2 = some .success → (recover cfg st es).2.1.getLast? = some .afterReconnected) ∧
    ((recover cfg st es).2.2 = some .hitMax → (recover cfg st es).2.1.getLast? = some .closeClientHitMax) ∧
    ((recover cfg st es).2.2 ≠ some .success → Act.afterReconnected ∉ (recover cfg st es).2.1) :=
  Reconnect.after_cb_only_on_success cfg es st

/-- single-flight, for every interleaving of any number of loss notifiers (view SingleFlight) -/
theorem single_flight (acts : List SingleFlight.Act) (s : SingleFlight.St) (h : SingleFlight.run SingleFlight.init acts = some s)
    (t u : Nat) (ht : SingleFlight.rAlive (s.rc t)) (hu : SingleFlight.rAlive (s.rc u)) : t = u :=
  SingleFlight.single_flight acts s h t u ht hu

/-- one recovery per loss — in the SingleFlight slice, which has no `Close`; of the full client the unconditional statement
is false: `recovery_one_per_loss_false` below -/
theorem one_recovery_per_loss (acts : List SingleFlight.Act) (s : SingleFlight.St)
    (h : SingleFlight.run SingleFlight.init acts = some s) (c : Nat) : s.spawns c ≤ 1 :=
  SingleFlight.one_recovery_per_loss acts s h c


/-! ### the same properties on the view that mirrors `reconnecting` statement by statement
(view Recovery: closed() tests, atomic fast path, guard, retry loop with hit-max, dial, Close — any number of notifiers,
Close callers, every interleaving, every MaxReconnect m) -/

/-- at most one retry-goroutine slot is occupied (running, or finished and not yet received from) -/
theorem recovery_single_flight (m : Nat) (acts : List Recovery.Act) (s : Recovery.St)
    (h : Recovery.run (Recovery.init m) acts = some s) (t u : Nat)
    (ht : Recovery.rLive (s.rc t)) (hu : Recovery.rLive (s.rc u)) : t = u :=
  Recovery.single_flight m acts s h t u ht hu

/-- one recovery per loss, as far as it holds of the code: while the client is open at most one retry goroutine has been
started for a connection; at most one was ever started for it before the close signal; one started after the signal never
calls `reconnect()` -/
theorem recovery_one_per_loss_partial (m : Nat) (acts : List Recovery.Act) (s : Recovery.St)
    (h : Recovery.run (Recovery.init m) acts = some s) (c : Nat) :
    (s.closedSig = false → s.spawns c ≤ 1) ∧ s.spawnsOpen c ≤ 1 ∧ s.lateAttempts = 0 :=
  Recovery.one_recovery_per_loss_partial m acts s h c

/-- … and the unconditional statement is false of the code: after Close, a notifier that had passed the `closed()` test and
the fast path earlier starts a second (idle) retry goroutine for the same connection -/
theorem recovery_one_per_loss_false :
    ¬ (∀ (m : Nat) (acts : List Recovery.Act) (s : Recovery.St),
        Recovery.run (Recovery.init m) acts = some s → ∀ c, s.spawns c ≤ 1) :=
  Recovery.one_recovery_per_loss_false

/-- the atomic mirror equals `doReconnectting` whenever nobody holds the write lock -/
theorem recovery_flag_agrees (m : Nat) (acts : List Recovery.Act) (s : Recovery.St)
    (h : Recovery.run (Recovery.init m) acts = some s) : s.writer = false → s.recovering = s.reconn :=
  Recovery.flag_agrees m acts s h

/-- a notifier that read `recovering = 1` has returned and never took the write lock in that call -/
theorem recovery_fast_path_no_lock (m : Nat) (acts : List Recovery.Act) (s : Recovery.St)
    (h : Recovery.run (Recovery.init m) acts = some s) :
    s.fastLockReqs = 0 ∧ ∀ t, s.fastTaken t = true → s.notif t = .done :=
  Recovery.fast_path_no_lock m acts s h

/-- every after-reconnect callback was preceded by a `closed()` test that returned false … -/
theorem recovery_after_cb_guarded (m : Nat) (acts : List Recovery.Act) (s : Recovery.St)
    (h : Recovery.run (Recovery.init m) acts = some s) :
    s.afterUnguarded = 0 ∧ ∀ t, s.rc t = .cb → s.guardSaw t = false :=
  Recovery.after_cb_guarded m acts s h

/-- … so an attempt whose dial completed with the signal already set never reports a reconnect -/
theorem recovery_after_cb_not_after_closed_dial (m : Nat) (acts : List Recovery.Act) (s : Recovery.St)
    (h : Recovery.run (Recovery.init m) acts = some s) :
    s.afterClosedDial = 0 ∧ ∀ t, s.rc t = .cb → s.sigAtDial t = false :=
  Recovery.after_cb_not_after_closed_dial m acts s h

/-- a hit-max exit leaves the close signal set and the close callback run exactly once -/
theorem recovery_hitmax_closes (m : Nat) (acts : List Recovery.Act) (s : Recovery.St)
    (h : Recovery.run (Recovery.init m) acts = some s) :
    (∀ t, s.rc t = .fin .hitmax → s.closedSig = true ∧ s.onCloseCalls = 1) ∧
    (0 < s.hitmaxExits → s.closedSig = true ∧ s.onCloseCalls = 1) :=
  Recovery.hitmax_closes m acts s h


/-- T2 structure facts: `isAuthExpired` (10 s margin, `>= 0`), `auth` (no token getter → nothing to do; fresh token; AUTH request under the auth timeout and the background context; session stored on success) and the option setters the recovery reads -/
theorem auth_source :
    Gen.stmts_client_isAuthExpired = ["info := c.AuthInfo()", "if info == nil { return true }", "expireAt := time.Unix(info.GetExpires()/1000-10, info.GetExpires()%1000*int64(time.Millisecond))", "return time.Since(expireAt) >= 0"] ∧
    Gen.stmts_client_auth = ["if c.dialOptions.AuthTokenGetter == nil { return nil }", "token, err := c.dialOptions.AuthTokenGetter()", "if err != nil { return err }", "res, err := c.Do(context.Background(), &Request{ Cmd: uint32(control.Command_CMD_AUTH), Body: &control.AuthRequest{Token: token, Metadata: c.connectMetadata}, }, RequestTimeout(c.dialOptions.AuthTimeout))", "if err != nil { return errors.Wrap(err, \"do auth\") }", "var info control.AuthResponse", "if err = res.Unmarshal(&info); err != nil { return errors.Wrap(err, \"auth unmarshal res\") }", "c.setAuthInfo(&info)", "return nil"] ∧
    Gen.stmts_opt_MaxReconnect = ["return func(o *DialOptions) { if i > 0 { o.MaxReconnect = i } }"] ∧
    Gen.stmts_opt_AuthTimeout = ["return func(o *DialOptions) { if d > 0 { o.AuthTimeout = d } }"] ∧
    Gen.stmts_opt_DialTimeout = ["return func(o *DialOptions) { if d > 0 { o.Timeout = d } }"] :=
  ⟨rfl, rfl, rfl, rfl, rfl⟩

end OAP.C08
