/-
C15 — Keepalive detects dead peers, and only dead peers. Property theorems only (view Keepalive, timed; the quantitative
part — detection latency, no false positive under scheduling slack — is KeepaliveBounds).  "Recycled" is the model's
`.recycle`, the outcome of the timeout check; the loop's other recycle, after a failed `ping()` write, is not modelled
(header of Keepalive.lean), and the no-false-positive theorems do not speak of it.
-/
import OAP.Model.Client.KeepaliveBounds
import OAP.Gen.Facts
namespace OAP.C15
open OAP.Keepalive

/-- with timeout ≥ interval a peer that answers every heartbeat is NEVER recycled by keepalive — whatever recoveries
(resume, re-auth, no auth) happen in between: the bookkeeping is reset by every successful recovery -/
theorem no_false_positive (cfg : Cfg) (hc : cfg.interval ≤ cfg.timeout) (p : Nat) (es : List Ev)
    (h : Healthy cfg p es) (k : K) (hk : k.lastPong = p) : Act.recycle ∉ (runK cfg k es).2 :=
  Keepalive.no_false_positive cfg hc p es h k hk

/-- while a ping is outstanding, a tick later than lastPong + timeout recycles the connection (when the first such tick comes:
`detection_bound`) -/
theorem detects_dead (cfg : Cfg) (k : K) (t : Nat) (hid : k.lastId ≠ 0) (ht : k.lastPong + cfg.timeout < t) :
    (step cfg k (.tick t)).2 = [.recycle] := Keepalive.detects_dead cfg k t hid ht

/-- the rule itself: recycle iff a ping is outstanding and nothing has been heard for more than the timeout — independent of
the peer's latency -/
theorem check_fails_iff (cfg : Cfg) (k : K) (t : Nat) :
    checkFails cfg k t = true ↔ (k.lastId ≠ 0 ∧ k.lastPong + cfg.timeout < t) := Keepalive.check_fails_iff cfg k t

/-- after every recovery the pong clock restarts: no tick within `timeout` of the re-dial recycles the fresh connection,
however late its first pong arrives -/
theorem after_recovery_grace (cfg : Cfg) (k : K) (r t : Nat) (ht : t ≤ r + cfg.timeout) (acts : List Ev)
    (hq : ∀ e ∈ acts, ∃ u, e = .tick u ∧ u ≤ r + cfg.timeout) :
    Act.recycle ∉ (runK cfg (step cfg k (.recovered r)).1 (acts ++ [.tick t])).2 :=
  Keepalive.after_recovery_grace cfg k r t ht acts hq

/-- every heartbeat carries a fresh id (in the Go code the same id is also the `HeartbeatId` of the body: `keepalive_source`; the
model has no body) -/
theorem ping_fresh (cfg : Cfg) (k : K) (t : Nat) (h : checkFails cfg k t = false) :
    (step cfg k (.tick t)).2 = [.ping k.nextId] ∧ (step cfg k (.tick t)).1.nextId = k.nextId + 1 ∧
    (step cfg k (.tick t)).1.lastId = k.nextId := Keepalive.ping_fresh cfg k t h

/-- T2 structure facts, regenerated from go/client on every run: the statements of `keepalive` (ticker on the interval; pong clock started; `check`: no ping outstanding → healthy, else elapsed > KeepaliveTimeout → dead; `ping`: skipped while recovering, fresh id, bookkeeping after the write; the loop snapshots the conn under the read lock BEFORE check and hands that snapshot to `reconnecting`), of `handlePing` (callback, echo with the request's id and body through the ordinary write path) and `handlePong` (callback, pong clock), the keepalive option setters and the defaults constructor (no rewriting of the configured values), and the operation order of `keepalive` -/
/- (instrumentation statements — `verifhook.Point(…)`, empty without the build tag — are stripped by the extractor before the statement
lists are emitted: a new yield point does not change what is pinned here) -/
theorem keepalive_source :
    Gen.stmts_client_keepalive = ["t := time.NewTicker(c.dialOptions.Keepalive)", "now := time.Now()", "c.stateMu.Lock()", "c.lastPongAt = now", "c.stateMu.Unlock()", "check := func() error { c.stateMu.Lock() id, at := c.lastKeepaliveId, c.lastPongAt c.stateMu.Unlock() if id == 0 { return nil } if d := time.Since(at); d > c.dialOptions.KeepaliveTimeout { return errors.Errorf(\"keepalive timeout %s\", d.String()) } return nil }", "ping := func() error { c.RLock() defer c.RUnlock() if c.doReconnectting { return nil } if c.conn == nil || c.conn.Context() == nil { return nil } id := c.conn.Context().NextReqId() hid := new(int32) *hid = int32(id) p, err := protocol.NewPacket(c.conn.Context(), protocol.RequestPacket, uint32(control.Command_CMD_HEARTBEAT), &control.Heartbeat{Timestamp: time.Now().UnixNano() / int64(time.Millisecond), HeartbeatId: hid}, protocol.WithRequestId(id)) if err != nil { return err } if err = c.write(&p); err != nil { return err } c.stateMu.Lock() c.lastKeepaliveId = id c.stateMu.Unlock() return nil }", "for { select { case <-c.closeCh: return case <-t.C: c.RLock() conn := c.conn c.RUnlock() if err := check(); err != nil { c.Logger.Errorf(\"keepalive error: %v\", err) c.reconnecting(conn) continue } if err := ping(); err != nil { c.Logger.Errorf(\"keepalive failed to ping, err: %v\", err) c.reconnecting(conn) continue } } }"] ∧
    Gen.stmts_client_handlePing = ["if c.onPing != nil { c.onPing(packet) }", "if !conn.NeedHandleControl() { return }", "res, _ := protocol.NewResponse(conn.Context(), uint32(control.Command_CMD_HEARTBEAT), protocol.StatusSuccess, packet.Body, protocol.WithRequestId(packet.Metadata.RequestId))", "if err := conn.Write(&res, protocol.GzipSize(c.dialOptions.MinGzipSize)); err != nil { c.Logger.Errorf(\"failed to send heartbeat ack, err: %v\", err) }"] ∧
    Gen.stmts_client_handlePong = ["if c.onPong != nil { c.onPong(packet) }", "c.stateMu.Lock()", "c.lastPongAt = time.Now()", "c.stateMu.Unlock()"] ∧
    Gen.stmts_opt_newDialOptions = ["o := &DialOptions{ Timeout: defaultDialTimeout, AuthTimeout: defaultAuthTimeout, KeepaliveTimeout: defaultKeepaliveTimeout, Keepalive: defaultKeepalive, ReadBufferSize: defaultReadBufferSize, ReadQueueSize: defaultReadQueueSize, WriteQueueSize: defaultWriteQueueSize, MinGzipSize: defaultMinGzipSize, }", "for _, opt := range opts { opt(o) }", "return o"] ∧
    Gen.stmts_opt_Keepalive = ["return func(o *DialOptions) { if d > 0 { o.Keepalive = d } }"] ∧
    Gen.stmts_opt_KeepaliveTimeout = ["return func(o *DialOptions) { if d > 0 { o.KeepaliveTimeout = d } }"] ∧
    Gen.seq_client_keepalive = ["c.stateMu.Lock", "c.stateMu.Unlock", "c.stateMu.Lock", "c.stateMu.Unlock", "c.RLock", "defer:c.RUnlock", "c.write", "c.stateMu.Lock", "c.stateMu.Unlock", "select", "recv:c.closeCh", "recv:t.C", "c.RLock", "c.RUnlock", "c.reconnecting", "c.reconnecting"] :=
  ⟨rfl, rfl, rfl, rfl, rfl, rfl, rfl⟩

/-- "detected … within keepalive interval + keepalive timeout plus scheduling slack": `J` bounds the lateness of ticks
(first tick at most `interval + J` after the last pong, consecutive ticks at most `interval + J` apart: `Spaced`). Once
the peer stops answering — the events are ticks only — and a ping is outstanding or sent in time by the first tick, the
FIRST `.recycle` of the run is produced by a tick at a time in (lastPong + timeout, lastPong + timeout + interval + J],
and no tick up to lastPong + timeout recycles. (`hout` holds by itself when `interval + J ≤ timeout`:
`Keepalive.detection_bound_of_slack`; without it a fresh connection needs up to max(timeout, interval + J) + interval + J:
`Keepalive.detection_bound_fresh`, `Keepalive.fresh_late_first_tick_exceeds_bound`.) -/
theorem detection_bound (cfg : Cfg) (J : Nat) (k : K) (ticks : List Nat)
    (hgen : k.nextId ≠ 0)
    (hout : k.lastId ≠ 0 ∨ ∃ t ts, ticks = t :: ts ∧ t ≤ k.lastPong + cfg.timeout)
    (hsp : Spaced (cfg.interval + J) k.lastPong ticks)
    (hlong : ∃ t ∈ ticks, k.lastPong + cfg.timeout < t) :
    Act.recycle ∈ (runK cfg k (ticks.map .tick)).2 ∧
    (∃ (i t : Nat), ticks[i]? = some t ∧ (runK cfg k (ticks.map .tick)).2[i]? = some Act.recycle ∧
      (∀ j : Nat, j < i → (runK cfg k (ticks.map .tick)).2[j]? ≠ some Act.recycle) ∧
      k.lastPong + cfg.timeout < t ∧ t ≤ k.lastPong + cfg.timeout + cfg.interval + J) ∧
    (∀ (i t : Nat), ticks[i]? = some t → t ≤ k.lastPong + cfg.timeout →
      (runK cfg k (ticks.map .tick)).2[i]? ≠ some Act.recycle) :=
  Keepalive.detection_bound cfg J k ticks hgen hout hsp hlong

/-- "a peer that answers every heartbeat is never declared dead" — under late ticks (slack `J`) and slow pongs (at no
tick a ping older than `L` is unanswered; pongs may arrive after the next tick; `L = 0` for a peer that always answers
before the next tick) this needs `interval + J + L ≤ timeout`, and then holds for every such event list, whatever
recoveries happen in between. `Keepalive.healthy_healthyJ`: the hypothesis of `no_false_positive` is the case
J = L = 0; `Keepalive.jitter_condition_tight`: the condition cannot be weakened. -/
theorem no_false_positive_jitter (cfg : Cfg) (J L : Nat) (hc : cfg.interval + J + L ≤ cfg.timeout)
    (k : K) (es : List Ev) (h : HealthyJ cfg J L k.lastPong none es) : Act.recycle ∉ (runK cfg k es).2 :=
  Keepalive.no_false_positive_jitter cfg J L hc k es h

/-- the premise "timeout ≥ interval" of the property is NOT sufficient once ticks can be late: timeout = interval =
200, the peer answers within 5 ms, the second tick is 10 ms late — the healthy peer is recycled. The property holds
with the premise `interval + slack ≤ timeout` (`no_false_positive_jitter`). -/
theorem timeout_eq_interval_needs_slack :
    HealthyJ ⟨200, 200⟩ 10 0 0 none [.tick 200, .pong 205, .tick 410] ∧
    (runK ⟨200, 200⟩ ⟨0, 0, 1⟩ [.tick 200, .pong 205, .tick 410]).2 = [.ping 1, .recycle] :=
  Keepalive.timeout_eq_interval_needs_slack

end OAP.C15
