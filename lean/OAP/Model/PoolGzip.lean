/-
Pool view, the gzip instances: the two `sync.Pool`s of go/gzip/gzip.go (`poolCompressor`, `poolDecompressor`)
as instances of the generic interleaving model `OAP.Pool`, with compress/gzip behind the oracle `GzOracle` of
`OAP.Model.Frame`.

Go statement → model step                                                          (pinned by `C10.pool_source`)

  Compress(in)
    buf := &bytes.Buffer{}                         (thread-private; its content is folded into the object's state
                                                    until `finish` hands it to the caller as the result)
    defaultCompressor.Compress(buf):
      z := c.poolCompressor.Get().(*writer)        get    hit: a pooled writer, with whatever its last stream left in it;
                                                          miss: `New` = the closure installed by `init` / `SetLevel`:
                                                          `return &writer{Writer: gzip.NewWriter(…), …}` — a NEW writer
                                                          per call: the model's fresh identity `next`
      z.Writer.Reset(w)                            reset  (`ResetErases`: trusted of compress/gzip)
    z.Write(in)                                    use in   (an error here returns without Close: finish, put = FALSE —
                                                            the writer is dropped; bytes.Buffer writes do not fail)
    z.Close():  return z.Writer.Close()            finish (the stream is completed: result = `gz.compress` of what was
                defer z.pool.Put(z)                        written) and put = true, on EVERY path (deferred)
    out = buf.Bytes()                              (the result, already taken)

  Decompress(in)
    defaultCompressor.Decompress(bytes.NewReader(in)):
      z, inPool := c.poolDecompressor.Get().(*reader)   get   (this pool has no `New`: a miss returns nil)
      if !inPool { newZ, err := gzip.NewReader(r) …     miss: `gzip.NewReader` = `new(Reader)` + `Reset(r)`: get(miss) + reset;
                   if err != nil { return nil, err }          header invalid → the call returns the error: finish, put = FALSE
      if err := z.Reset(r); err != nil {                reset on a recycled reader; header invalid →
          c.poolDecompressor.Put(z); return nil, err }        finish, put = TRUE (the reader goes back)
    buf.ReadFrom(or) → (z *reader).Read(p), repeatedly  use n (one `Read` with room for n+1 bytes)
      n, err = z.Reader.Read(p)
      if err == io.EOF { z.pool.Put(z) }                the Read that reports EOF: finish, put = TRUE
      (any other error: ReadFrom returns it)            finish, put = FALSE — the reader is DROPPED, never pooled again

Both values of `put` occur, and which one depends on more than the object's state (a failed Reset puts a recycled
reader back and drops a new one), so the generic model leaves `put` to the schedule: the theorems hold for every choice.
`goPut` below is the choice the Go code makes; `followsGo_demo` is a run that follows it.

One `Put` per `Get`: `writer.Close` and the EOF branch of `reader.Read` put on EVERY invocation, so a caller that
closed twice, or read again after io.EOF, would put the object twice (`Pool.double_put_breaks` shows what follows).
Neither object escapes this package: `Compress` calls `Close` once, and `Decompress` reads through
`bytes.Buffer.ReadFrom`, which returns at the first io.EOF (both pinned by `C10.pool_source`).
-/
import OAP.Model.Pool
import OAP.Model.Frame
namespace OAP.PoolGzip
open OAP.Pool

/-- the pooled `*writer`. State: the bytes written into it since its last `Reset` (for an object lying in the pool:
the input of the call that used it last — stale). `Reset(w)`: a new, empty stream. `Write(p)`: append. `Close`: the
finished stream, compress/gzip's output for everything written (the oracle). -/
def WB (gz : GzOracle) : Beh Bytes Unit Bytes (Res Bytes) :=
  { new := [], reset := fun _ _ => [], useStep := fun s p => s ++ p, result := fun s => gz.compress s }

theorem WB_erases (gz : GzOracle) : (WB gz).ResetErases := fun _ _ _ => rfl

theorem WB_seq (gz : GzOracle) (ps : List Bytes) : (WB gz).seqResult () ps = gz.compress ps.flatten := by
  simpa [Beh.seqResult, Beh.seqState, WB] using
    congrArg gz.compress (List.foldl_append_eq_append (l := ps) (f := id) (l' := []))

/-- `gzip.Compress(x)` as a call of the model: Reset, one Write, Close -/
theorem WB_seq_one (gz : GzOracle) (x : Bytes) : (WB gz).seqResult () [x] = gz.compress x := by
  simp [WB_seq]

/-- N goroutines calling `gzip.Compress` over the shared `poolCompressor` — any
interleaving of their Get / Reset / Write / Close+Put steps, `Get` hitting or missing, the pool dropping writers, from
ANY initial pool of writers with arbitrary stale content: every call `Compress(x)` that has returned has returned
`gz.compress x`, exactly what the sequential model (`Frame.pack`: `gz.compress p.body`) uses. More generally, a
writer that was written in pieces returns the compression of their concatenation. -/
theorem compress_concurrent_eq_seq (gz : GzOracle) (pool : List Nat) (obj : Nat → Bytes) (next : Nat)
    (h0 : InitOk pool next) (acts : List (Act Unit Bytes)) (s : St Bytes Unit Bytes (Res Bytes))
    (h : run (WB gz) (init pool obj next) acts = some s) :
    (∀ t x out, s.pc t = .fin () [x] out → out = gz.compress x) ∧
    (∀ t ps out, s.pc t = .fin () ps out → out = gz.compress ps.flatten) ∧
    (∀ t u o, t ≠ u → (s.pc t).holds = some o → (s.pc u).holds ≠ some o) := by
  refine ⟨?_, ?_, (no_shared_object (WB gz) (WB_erases gz) pool obj next h0 acts s h).1⟩
  · intro t x out hf
    rw [pool_exclusive (WB gz) (WB_erases gz) pool obj next h0 acts s h t () [x] out hf, WB_seq_one]
  · intro t ps out hf
    rw [pool_exclusive (WB gz) (WB_erases gz) pool obj next h0 acts s h t () ps out hf, WB_seq]

inductive RStatus where
  | resetErr      -- `Reset` / `NewReader` rejected the gzip header
  | reading
  | eof           -- the stream ended, checksum and size verified: `Read` returned io.EOF
  | failed        -- the stream ended in an error (truncated, corrupt, checksum mismatch)
  deriving DecidableEq, Repr

/-- the pooled `*reader` together with what the caller has read from it so far: the compressed source it was `Reset`
on, the bytes delivered since, its status. (For an object lying in the pool all three are stale.) -/
structure RState where
  src : Bytes
  got : Bytes
  status : RStatus
  deriving DecidableEq, Repr

/-- `z.Reset(r)` / `gzip.NewReader(r)`: new source, nothing delivered; it fails iff the oracle has no stream for
the source (`gz.read src = none`: no valid gzip header) -/
def rReset (gz : GzOracle) (_ : RState) (src : Bytes) : RState :=
  { src := src, got := [], status := if (gz.read src).isSome then .reading else .resetErr }

/-- one `Read(p)` with `len(p) = n + 1`. The oracle says what the stream holds: `gz.read src = some (out, ok)` — the
content `out`, then a clean end (`ok`) or an error. While content is left the next (at most n + 1) bytes are delivered;
after that the end is reported: io.EOF or the error. A reader that has finished keeps its status. -/
def rRead (gz : GzOracle) (s : RState) (n : Nat) : RState :=
  match s.status with
  | .reading =>
      match gz.read s.src with
      | some (out, ok) =>
          if s.got.length < out.length then { s with got := out.take (s.got.length + n + 1) }
          else { s with status := if ok then .eof else .failed }
      | none => { s with status := .failed }
  | _ => s

/-- what `gzip.Decompress` returns: the bytes read if the reader reported io.EOF, otherwise an error -/
def rResult (s : RState) : Res Bytes :=
  match s.status with
  | .eof => .ok s.got
  | _ => .err "gzip"

def RB (gz : GzOracle) : Beh RState Bytes Nat (Res Bytes) :=
  { new := { src := [], got := [], status := .resetErr }, reset := rReset gz, useStep := rRead gz, result := rResult }

theorem RB_erases (gz : GzOracle) : (RB gz).ResetErases := fun _ _ _ => rfl

/-- what the Go code does with the reader at the end of the call (`fromPool`: `Get` hit) -/
def goPut (fromPool : Bool) (s : RState) : Bool :=
  match s.status with
  | .eof => true                 -- `if err == io.EOF { z.pool.Put(z) }`
  | .resetErr => fromPool        -- `c.poolDecompressor.Put(z); return nil, err` — a NEW reader that fails is just garbage
  | _ => false                   -- an error from Read: dropped

/-- the reader relates to the oracle's stream for `src` -/
structure RWf (gz : GzOracle) (src : Bytes) (s : RState) : Prop where
  src_eq : s.src = src
  resetErr : s.status = .resetErr → gz.read src = none
  reading : s.status = .reading → ∃ out ok k, gz.read src = some (out, ok) ∧ s.got = out.take k
  eof : s.status = .eof → gz.read src = some (s.got, true)
  failed : s.status = .failed → ∃ out, gz.read src = some (out, false)

theorem rwf_reset (gz : GzOracle) (s0 : RState) (src : Bytes) : RWf gz src (rReset gz s0 src) := by
  cases hr : gz.read src with
  | none => constructor <;> simp [rReset, hr]
  | some p =>
    obtain ⟨out, ok⟩ := p
    constructor <;> simp [rReset, hr]

theorem rwf_read (gz : GzOracle) (src : Bytes) (s : RState) (n : Nat) (h : RWf gz src s) : RWf gz src (rRead gz s n) := by
  obtain ⟨h1, h2, h3, h4, h5⟩ := h
  by_cases hst : s.status = .reading
  · obtain ⟨out, ok, k, hr, hg⟩ := h3 hst
    by_cases hlen : s.got.length < out.length
    · rw [show rRead gz s n = { s with got := out.take (s.got.length + n + 1) } by simp [rRead, hst, h1, hr, hlen]]
      exact ⟨h1, by simp [hst], fun _ => ⟨out, ok, _, hr, rfl⟩, by simp [hst], by simp [hst]⟩
    · have hfull : s.got = out := by
        rw [hg] at hlen ⊢
        exact List.take_of_length_le (by simp only [List.length_take] at hlen; omega)
      rw [show rRead gz s n = { s with status := if ok then .eof else .failed } by simp [rRead, hst, h1, hr, hlen]]
      cases ok
      · exact ⟨h1, by simp, by simp, by simp, fun _ => ⟨out, hr⟩⟩
      · exact ⟨h1, by simp, by simp, fun _ => by simp [hfull, hr], by simp⟩
  · rw [show rRead gz s n = s by unfold rRead; split <;> first | contradiction | rfl]
    exact ⟨h1, h2, h3, h4, h5⟩

theorem rwf_seq (gz : GzOracle) (src : Bytes) (ns : List Nat) : RWf gz src ((RB gz).seqState src ns) := by
  have : ∀ (ns : List Nat) (s : RState), RWf gz src s → RWf gz src (ns.foldl (rRead gz) s) := by
    intro ns
    induction ns with
    | nil => intro s h; exact h
    | cons n ns ih => intro s h; exact ih _ (rwf_read gz src s n h)
  exact this ns _ (rwf_reset gz (RB gz).new src)

/-- the call has run to its end: `ReadFrom` loops until `Read` returns io.EOF or an error (or `Reset` failed and
there was nothing to read) -/
def Done (gz : GzOracle) (src : Bytes) (ns : List Nat) : Prop := ((RB gz).seqState src ns).status ≠ .reading

instance (gz : GzOracle) (src : Bytes) (ns : List Nat) : Decidable (Done gz src ns) := by unfold Done; infer_instance

/-- alone on a fresh reader, a call that has run to its end returns `Gzip.decompress` — the function the sequential
frame model uses — however the reads were chunked -/
theorem RB_seq (gz : GzOracle) (src : Bytes) (ns : List Nat) (hd : Done gz src ns) :
    (RB gz).seqResult src ns = Gzip.decompress gz src := by
  have w := rwf_seq gz src ns
  unfold Done at hd
  simp only [Beh.seqResult, RB, rResult] at *
  generalize (Beh.seqState _ src ns) = s at *
  cases hst : s.status with
  | reading => exact absurd hst hd
  | resetErr => simp [Gzip.decompress, w.resetErr hst]
  | eof => simp [Gzip.decompress, w.eof hst]
  | failed => obtain ⟨out, ho⟩ := w.failed hst; simp [Gzip.decompress, ho]

/-- every source can be read to its end (so `Done` is satisfiable for every input): two reads suffice, one with room for
the whole content and one that finds the end -/
theorem done_exists (gz : GzOracle) (src : Bytes) : ∃ ns, Done gz src ns := by
  cases hr : gz.read src with
  | none => exact ⟨[], by simp [Done, Beh.seqState, RB, rReset, hr]⟩
  | some p =>
    obtain ⟨out, ok⟩ := p
    refine ⟨[out.length, 0], ?_⟩
    by_cases h : 0 < out.length <;> cases ok <;> simp [Done, Beh.seqState, RB, rReset, rRead, hr, h]

/-- N goroutines calling `gzip.Decompress` over the shared `poolDecompressor` — any
interleaving of their Get / Reset / Read / Put-or-drop steps, readers put back (EOF, failed Reset of a recycled reader)
or dropped (stream error, failed NewReader, the collector), from ANY initial pool of readers with arbitrary stale
sources, offsets and statuses: every call that has returned has returned its sequential result, and a call that has run
to its end (`Done`: what `ReadFrom` does) has returned `Gzip.decompress gz src`, whatever the sizes of its reads. -/
theorem decompress_concurrent_eq_seq (gz : GzOracle) (pool : List Nat) (obj : Nat → RState) (next : Nat)
    (h0 : InitOk pool next) (acts : List (Act Bytes Nat)) (s : St RState Bytes Nat (Res Bytes))
    (h : run (RB gz) (init pool obj next) acts = some s) :
    (∀ t src ns out, s.pc t = .fin src ns out → out = (RB gz).seqResult src ns) ∧
    (∀ t src ns out, s.pc t = .fin src ns out → Done gz src ns → out = Gzip.decompress gz src) ∧
    (∀ t u o, t ≠ u → (s.pc t).holds = some o → (s.pc u).holds ≠ some o) := by
  refine ⟨?_, ?_, (no_shared_object (RB gz) (RB_erases gz) pool obj next h0 acts s h).1⟩
  · intro t src ns out hf
    exact pool_exclusive (RB gz) (RB_erases gz) pool obj next h0 acts s h t src ns out hf
  · intro t src ns out hf hd
    rw [pool_exclusive (RB gz) (RB_erases gz) pool obj next h0 acts s h t src ns out hf, RB_seq gz src ns hd]

/-- both pools at once: a `Compress(x)` finished in ANY interleaving over the writer pool, its output fed to a
`Decompress` that ran to its end in ANY interleaving over the reader pool, gives `x` back (oracle soundness assumed) -/
theorem roundtrip_concurrent (gz : GzOracle) (hs : gz.Sound)
    (pool : List Nat) (obj : Nat → Bytes) (next : Nat) (h0 : InitOk pool next)
    (acts : List (Act Unit Bytes)) (s : St Bytes Unit Bytes (Res Bytes))
    (h : run (WB gz) (init pool obj next) acts = some s)
    (pool' : List Nat) (obj' : Nat → RState) (next' : Nat) (h0' : InitOk pool' next')
    (acts' : List (Act Bytes Nat)) (s' : St RState Bytes Nat (Res Bytes))
    (h' : run (RB gz) (init pool' obj' next') acts' = some s')
    (t t' : Nat) (x c : Bytes) (ns : List Nat) (out : Res Bytes)
    (hf : s.pc t = .fin () [x] (.ok c)) (hf' : s'.pc t' = .fin c ns out) (hd : Done gz c ns) : out = .ok x := by
  have e1 := (compress_concurrent_eq_seq gz pool obj next h0 acts s h).1 t x _ hf
  have e2 := (decompress_concurrent_eq_seq gz pool' obj' next' h0' acts' s' h').2.1 t' c ns out hf' hd
  obtain ⟨c', hc1, hc2⟩ := hs x
  rw [hc1] at e1; cases e1
  rw [e2]; simp [Gzip.decompress, hc2]

/-- a toy gzip: a stream is the magic byte 0x1f, the content, and the end marker 0xff; a missing marker is a truncated
stream; anything not starting with the magic byte has no valid header -/
def toyGz : GzOracle :=
  { compress := fun x => .ok (0x1f :: x ++ [0xff]),
    read := fun c => match c with
      | 0x1f :: rest => if rest.getLast? = some 0xff then some (rest.dropLast, true) else some (rest, false)
      | _ => none }

/-- writer pool: two stale writers; thread 0 recycles one, thread 1 gets a new one, thread 2 recycles the other, all
three interleaved; thread 2 writes in two pieces -/
example : (run (WB toyGz) (init [0, 1] (fun o => if o = 0 then [9, 9] else [8]) 2)
      [.get 0 () (some 1), .get 1 () none, .get 2 () (some 0), .reset 1, .reset 0, .use 0 [1, 2], .reset 2, .use 2 [5],
       .use 1 [3], .finish 0 true, .use 2 [6], .finish 1 true, .finish 2 true]).map (fun s => (s.pc 0, s.pc 1, s.pc 2)) =
    some (.fin () [[1, 2]] (.ok [0x1f, 1, 2, 0xff]), .fin () [[3]] (.ok [0x1f, 3, 0xff]),
          .fin () [[5], [6]] (.ok [0x1f, 5, 6, 0xff])) := by decide

/-- reader pool, the Go put policy followed (`goPut`): one stale reader in the pool. Thread 0 recycles it for a good
stream and reads it in three reads (2 bytes, 1 byte, EOF) → put back. Thread 1 misses (new reader) on a truncated
stream → error, DROPPED. Thread 2 then recycles the reader thread 0 put back, for a source with no header → Reset
fails, reader put back. Thread 3 misses on a source with no header → `NewReader` fails, nothing pooled. -/
def followsGoActs : List (Act Bytes Nat) :=
  [.get 0 [0x1f, 1, 2, 3, 0xff] (some 0), .get 1 [0x1f, 7, 7] none, .reset 0, .reset 1, .use 0 1, .use 1 9, .use 0 0,
   .use 1 0, .use 0 0, .finish 1 false, .finish 0 true, .get 2 [0x00, 5] (some 0), .get 3 [0x00] none, .reset 2,
   .reset 3, .finish 2 true, .finish 3 false]

def followsGoInit : St RState Bytes Nat (Res Bytes) :=
  init [0] (fun _ => { src := [0x1f, 4, 4, 0xff], got := [4], status := .reading }) 1

theorem followsGo_demo :
    (run (RB toyGz) followsGoInit followsGoActs).map (fun s => (s.pc 0, s.pc 1, s.pool)) =
      some (.fin [0x1f, 1, 2, 3, 0xff] [1, 0, 0] (.ok [1, 2, 3]), .fin [0x1f, 7, 7] [9, 0] (.err "gzip"), [0]) ∧
    (run (RB toyGz) followsGoInit followsGoActs).map (fun s => (s.pc 2, s.pc 3, s.next)) =
      some (.fin [0x00, 5] [] (.err "gzip"), .fin [0x00] [] (.err "gzip"), 3) ∧
    -- the `put` flags of the four `finish` steps are the ones `goPut` prescribes
    goPut true ((RB toyGz).seqState [0x1f, 1, 2, 3, 0xff] [1, 0, 0]) = true ∧
    goPut false ((RB toyGz).seqState [0x1f, 7, 7] [9, 0]) = false ∧
    goPut true ((RB toyGz).seqState [0x00, 5] []) = true ∧ goPut false ((RB toyGz).seqState [0x00] []) = false ∧
    -- and all four calls have run to their end
    Done toyGz [0x1f, 1, 2, 3, 0xff] [1, 0, 0] ∧ Done toyGz [0x1f, 7, 7] [9, 0] ∧ Done toyGz [0x00, 5] [] ∧
    Done toyGz [0x00] [] := by
  refine ⟨by decide, by decide, by decide, by decide, by decide, by decide, by decide, by decide, by decide, by decide⟩

example : Gzip.decompress toyGz [0x1f, 1, 2, 3, 0xff] = .ok [1, 2, 3] ∧ Gzip.decompress toyGz [0x1f, 7, 7] = .err "gzip" ∧
    Gzip.decompress toyGz [0x00, 5] = .err "gzip" := by decide

/-- a call that stops reading early has NOT run to its end (`Done` is a real hypothesis) -/
example : ¬ Done toyGz [0x1f, 1, 2, 3, 0xff] [1] := by decide

end OAP.PoolGzip
