/-
L5/L6 of the Lifecycle view (DESIGN.md Appendix B): one user `Close`, one reader
goroutine that hits a read error and runs `conn.Close` → close callback → `reconnecting`, and the
retry goroutine it spawns.  Three kinds of blocking meet here: the client RWMutex, the connection's
sync.Once, and the wait for the retry goroutine.  Proved: an invariant that excludes the
lock/Once/wait cycle, and NO DEADLOCK — in no reachable state are all unfinished threads blocked
(`cBlocked` / `rBlocked` / `kBlocked`).
Left out of the code: the client's `closeOnce` (one Close caller), in `reconnecting` the atomic fast path and
the `c.conn != conn` half of the guard, and of the retry goroutine everything but its `closed()` test and ONE
`dial` — no `RLock(); old := c.conn; RUnlock()`, `old.Close`, fail-all, retry or hit-max (view Recovery has them).
The lock has no writer preference: `RLock` is refused only while a writer HOLDS the lock (Go also refuses it while a `Lock()` is
pending: view LockWait), so `cBlocked` at `wantR` is not yet Go's condition.
-/
import OAP.LTS
namespace OAP.Quartet

inductive Who | closer | reader | rc
deriving DecidableEq, Repr

inductive Once | free | held (w : Who) | done
deriving DecidableEq, Repr

inductive CPc    -- user Close: signal, RLock, conn.Close(cur), RUnlock, callback
  | start | wantR | testClosed | wantOnce | body | checkSig | release | runlock | cb | fin
deriving DecidableEq, Repr

inductive RPc    -- reader: conn.Close(err) → DispatchClose → onConnClose → reconnecting(conn)
  | run | testClosed | wantOnce | body | checkSig | rcvCheckSig | wantW | locked | spawn | waitRC
  | wantW2 | locked2 | release | fin
deriving DecidableEq, Repr

inductive KPc    -- retry goroutine: closed-check, dial under the write lock (with its own closed-check)
  | none | top | wantW | check | dialing | unlock | fin
deriving DecidableEq, Repr

structure St where
  sig : Bool                -- client close signal
  cclosed : Bool            -- connection's closeCh closed
  once : Once               -- connection's closeOnce
  readers : Nat             -- client mu: read holders (only the closer can be one here)
  writer : Option Who       -- client mu: write holder
  reconn : Bool             -- doReconnectting
  c : CPc
  r : RPc
  k : KPc
  closerReconnects : Bool   -- ghost: Close's nested conn.Close entered reconnecting (must never happen)

inductive Act | c | r | k
deriving DecidableEq, Repr

def step (s : St) : Act → Option St
  | .c =>
    match s.c with
    | .start => some { s with sig := true, c := .wantR }
    | .wantR => if s.writer.isSome then none else some { s with readers := s.readers + 1, c := .testClosed }
    | .testClosed => if s.cclosed then some { s with c := .runlock } else some { s with c := .wantOnce }
    | .wantOnce =>
        match s.once with
        | .free => some { s with once := .held .closer, c := .body }
        | .done => some { s with c := .runlock }
        | .held _ => none
    | .body => some { s with cclosed := true, c := .checkSig }
    | .checkSig => if s.sig then some { s with c := .release } else some { s with closerReconnects := true, c := .release }
    | .release => some { s with once := .done, c := .runlock }
    | .runlock => some { s with readers := s.readers - 1, c := .cb }
    | .cb => some { s with c := .fin }
    | .fin => none
  | .r =>
    match s.r with
    | .run => some { s with r := .testClosed }                         -- read error (peer drop or local close)
    | .testClosed => if s.cclosed then some { s with r := .fin } else some { s with r := .wantOnce }
    | .wantOnce =>
        match s.once with
        | .free => some { s with once := .held .reader, r := .body }
        | .done => some { s with r := .fin }
        | .held _ => none
    | .body => some { s with cclosed := true, r := .checkSig }
    | .checkSig => if s.sig then some { s with r := .release } else some { s with r := .rcvCheckSig }
    | .rcvCheckSig => if s.sig then some { s with r := .release } else some { s with r := .wantW }
    | .wantW => if s.writer.isSome || s.readers != 0 then none else some { s with writer := some .reader, r := .locked }
    | .locked => if s.reconn then some { s with writer := none, r := .release }
                 else some { s with reconn := true, writer := none, r := .spawn }
    | .spawn => some { s with k := .top, r := .waitRC }
    | .waitRC => if s.k = .fin then some { s with r := .wantW2 } else none
    | .wantW2 => if s.writer.isSome || s.readers != 0 then none else some { s with writer := some .reader, r := .locked2 }
    | .locked2 => some { s with reconn := false, writer := none, r := .release }
    | .release => some { s with once := .done, r := .fin }
    | .fin => none
  | .k =>
    match s.k with
    | .none => none
    | .top => if s.sig then some { s with k := .fin } else some { s with k := .wantW }
    | .wantW => if s.writer.isSome || s.readers != 0 then none else some { s with writer := some .rc, k := .check }
    | .check => if s.sig then some { s with k := .unlock } else some { s with k := .dialing }
    | .dialing => some { s with k := .unlock }
    | .unlock => some { s with writer := none, k := .fin }
    | .fin => none

def init : St :=
  { sig := false, cclosed := false, once := .free, readers := 0, writer := none, reconn := false,
    c := .start, r := .run, k := .none, closerReconnects := false }

def run : St → List Act → Option St
  | s, [] => some s
  | s, a :: as => (step s a).bind (fun s' => run s' as)

theorem isRun : LTS.IsRun step run := ⟨fun _ => rfl, fun _ _ _ => rfl⟩

def cHoldsR : CPc → Prop
  | .testClosed | .wantOnce | .body | .checkSig | .release | .runlock => True
  | _ => False

def cInOnce : CPc → Prop
  | .body | .checkSig | .release => True
  | _ => False

def rInOnce : RPc → Prop
  | .body | .checkSig | .rcvCheckSig | .wantW | .locked | .spawn | .waitRC | .wantW2 | .locked2 | .release => True
  | _ => False

def rPastSigOpen : RPc → Prop            -- the reader decided to reconnect (it saw the signal open)
  | .wantW | .locked | .spawn | .waitRC | .wantW2 | .locked2 => True
  | _ => False

def rHoldsW : RPc → Prop
  | .locked | .locked2 => True
  | _ => False

def kHoldsW : KPc → Prop
  | .check | .dialing | .unlock => True
  | _ => False

def cPastStart : CPc → Prop
  | .start => False
  | _ => True

structure QInv (s : St) : Prop where
  sigC : s.sig = true ↔ cPastStart s.c
  rdC1 : cHoldsR s.c → s.readers = 1
  rdC0 : ¬ cHoldsR s.c → s.readers = 0
  onceC : s.once = .held .closer ↔ cInOnce s.c
  onceR : s.once = .held .reader ↔ rInOnce s.r
  onceRc : s.once ≠ .held .rc
  closedAfterBodyR : (rInOnce s.r ∧ s.r ≠ .body) → s.cclosed = true
  wR : s.writer = some .reader ↔ rHoldsW s.r
  wK : s.writer = some .rc ↔ kHoldsW s.k
  wC : s.writer ≠ some .closer
  kAlive : (s.k ≠ .none) → (s.r = .waitRC ∨ (s.k = .fin ∧ (s.r = .wantW2 ∨ s.r = .locked2 ∨ s.r = .release ∨ s.r = .fin)))
  -- L5: the closer waits for the Once (holding the read lock) only if the reader, if it holds the
  -- Once, has not decided — and will not decide — to reconnect
  noCycle : s.c = .wantOnce → ¬ rPastSigOpen s.r ∧ s.r ≠ .rcvCheckSig ∧ (s.r = .checkSig → s.sig = true)
  waitK : s.r = .waitRC → s.k ≠ .none
  ghost : s.closerReconnects = false

theorem past_in {p : RPc} (h : rPastSigOpen p) : rInOnce p ∧ p ≠ .body := by
  cases p <;> simp_all [rPastSigOpen, rInOnce]

theorem inv_init : QInv init := by
  constructor <;> simp [init, cPastStart, cHoldsR, cInOnce, rInOnce, rHoldsW, kHoldsW, rPastSigOpen]

def cActive (s : St) : Prop := s.c ≠ .fin
def rActive (s : St) : Prop := s.r ≠ .run ∧ s.r ≠ .fin
def kActive (s : St) : Prop := s.k ≠ .none ∧ s.k ≠ .fin

def onceHeld (s : St) : Prop := s.once = .held .closer ∨ s.once = .held .reader ∨ s.once = .held .rc
def lockBusy (s : St) : Prop := s.writer.isSome = true ∨ s.readers ≠ 0

/-- the pcs at which `step` refuses a thread, each with its blocking condition, written out by hand (no lemma relates
    them to `step`) -/
def cBlocked (s : St) : Prop := (s.c = .wantR ∧ s.writer.isSome = true) ∨ (s.c = .wantOnce ∧ onceHeld s)
def rBlocked (s : St) : Prop :=
  (s.r = .wantOnce ∧ onceHeld s) ∨ (s.r = .wantW ∧ lockBusy s) ∨ (s.r = .wantW2 ∧ lockBusy s) ∨ (s.r = .waitRC ∧ s.k ≠ .fin)
def kBlocked (s : St) : Prop := s.k = .wantW ∧ lockBusy s

theorem rIn_active (p : RPc) (h : rInOnce p) : p ≠ .run ∧ p ≠ .fin ∧ p ≠ .wantOnce ∧ p ≠ .testClosed := by
  cases p <;> simp_all [rInOnce]
theorem rHolds_pcs (p : RPc) (h : rHoldsW p) : p = .locked ∨ p = .locked2 := by
  cases p <;> simp_all [rHoldsW]
theorem kHolds_pcs (p : KPc) (h : kHoldsW p) : p = .check ∨ p = .dialing ∨ p = .unlock := by
  cases p <;> simp_all [kHoldsW]
theorem cIn_pcs (p : CPc) (h : cInOnce p) : p = .body ∨ p = .checkSig ∨ p = .release := by
  cases p <;> simp_all [cInOnce]
theorem who_cases (w : Who) : w = .closer ∨ w = .reader ∨ w = .rc := by cases w <;> simp
theorem isSome_cases (o : Option Who) (h : o.isSome = true) : o = some .closer ∨ o = some .reader ∨ o = some .rc := by
  cases o with
  | none => simp at h
  | some w => simpa using who_cases w

/-- L6 for the quartet: no reachable state has all unfinished threads blocked — in particular the
    cycle "Close holds the read lock and waits for the Once; the Once holder waits for the retry
    goroutine; the retry goroutine waits for the write lock" cannot occur -/
theorem no_deadlock (s : St) (h : QInv s) (hany : cActive s ∨ rActive s ∨ kActive s) :
    ¬ ((cActive s → cBlocked s) ∧ (rActive s → rBlocked s) ∧ (kActive s → kBlocked s)) := by
  -- Suppose every unfinished thread is blocked. A write holder stands at a pc that is never blocked (`wR`, `wK`, `wC`), so nobody
  -- holds the write lock and the closer is not blocked at `wantR`. Nor at `wantOnce`: the Once would be held by the reader
  -- (`onceC`, `onceRc`), which is then inside the Once and blocked, i.e. waiting for the lock or for the retry goroutine — what
  -- `noCycle` excludes while the closer waits for the Once. So the closer has finished, no read lock is held (`rdC0`), the lock is
  -- free: nobody is blocked at `wantW`/`wantW2`, the reader is not inside the Once it would wait for (`onceR`), and at `waitRC` it
  -- has a live retry goroutine (`waitK`) that can take the lock.
  have := h.rdC0; have := h.onceC; have := h.onceR; have := h.onceRc; have := h.wR; have := h.wK; have := h.wC
  have := h.noCycle; have := h.waitK
  unfold cActive rActive kActive cBlocked rBlocked kBlocked onceHeld lockBusy at *
  intro ⟨bc, br, bk⟩
  have wc := isSome_cases s.writer
  grind [cHoldsR, rPastSigOpen, rIn_active, rHolds_pcs, kHolds_pcs, cIn_pcs]

section
attribute [local grind] cPastStart cHoldsR cInOnce rInOnce rHoldsW kHoldsW rPastSigOpen
attribute [local grind →] past_in

/-- shape of the proof: head of `OAP/LTS.lean` -/
theorem inv_step (s : St) (a : Act) (s' : St) (i : QInv s) (hs : step s a = some s') : QInv s' := by
  revert hs
  fun_cases step s a <;> rintro ⟨⟩ <;>
    (constructor
     case sigC => first | with_reducible exact i.sigC | (have := i.sigC; intros; grind)
     case rdC1 => first | with_reducible exact i.rdC1 | (have := i.rdC1; have := i.rdC0; intros; grind)
     case rdC0 => first | with_reducible exact i.rdC0 | (have := i.rdC1; have := i.rdC0; intros; grind)
     case onceC => first | with_reducible exact i.onceC | (have := i.onceC; have := i.onceR; intros; grind)
     case onceR => first | with_reducible exact i.onceR | (have := i.onceC; have := i.onceR; intros; grind)
     case onceRc => first | with_reducible exact i.onceRc | (intros; grind)
     case closedAfterBodyR => first | with_reducible exact i.closedAfterBodyR | (have := i.closedAfterBodyR; intros; grind)
     case wR => first | with_reducible exact i.wR | (have := i.wR; have := i.kAlive; intros; grind)
     case wK => first | with_reducible exact i.wK | (have := i.wR; have := i.wK; have := i.kAlive; intros; grind)
     case wC => first | with_reducible exact i.wC | (intros; grind)
     case kAlive => first | with_reducible exact i.kAlive | (have := i.kAlive; intros; grind)
     case noCycle => first | with_reducible exact i.noCycle | (have := i.sigC; have := i.closedAfterBodyR; have := i.noCycle; intros; grind)
     case waitK => first | with_reducible exact i.waitK | (intros; grind)
     case ghost => first | with_reducible exact i.ghost | (have := i.sigC; intros; grind))
end

/-- for every interleaving: Close's nested conn.Close never enters reconnecting (so Close never asks
    for the write lock while holding the read lock), and in no reachable state are all unfinished threads blocked -/
theorem quartet_safe (acts : List Act) (s : St) (h : run init acts = some s) :
    s.closerReconnects = false ∧
    ((cActive s ∨ rActive s ∨ kActive s) →
      ¬ ((cActive s → cBlocked s) ∧ (rActive s → rBlocked s) ∧ (kActive s → kBlocked s))) := by
  have i := isRun.inv inv_step acts init s inv_init h
  exact ⟨i.ghost, no_deadlock s i⟩

/-- non-vacuity: Close arrives while the retry goroutine holds the write lock for its dial; all three threads finish,
    the Once done and the lock free -/
def demo : List Act :=
  [.r, .r, .r, .r, .r, .r, .r, .r, .r,      -- read error … Once taken … decided to reconnect … spawned, waiting
   .k, .k,                                   -- retry goroutine: signal open, takes the write lock
   .c,                                       -- Close: signal
   .k, .k,                                   -- dial's own check sees the signal: unlock, finished
   .r, .r, .r, .r,                           -- reader clears the flag, releases the Once, exits
   .c, .c, .c, .c]                           -- Close: RLock, conn already closed, RUnlock, callback

example : (run init demo).map (fun s => (s.c, s.r, s.k)) = some (.fin, .fin, .fin) := by decide
example : (run init demo).map (fun s => (s.once, s.writer.isSome, s.readers)) = some (.done, false, 0) := by decide

end OAP.Quartet
