/-
C14 / C06, view LockWait: the client's RWMutex `c.mu` with Go's real semantics — A GOROUTINE BLOCKED IN `Lock()` BLOCKS EVERY
NEW `RLock()`, read holders already inside keep the lock until they `RUnlock` — and the goroutines that meet at it: request
calls `Do`, which HOLD THE READ LOCK WHILE THEY WAIT for their answer; the loss notifiers (`reconnecting`, write lock); the
retry goroutine (`reconnect` / `dial`, write lock; its auth request is an ordinary `Do`); the callers of `Close`.
Proved: once `Close` has set its signal nothing it depends on waits for a request deadline, for the auth timeout, for the
1 s sleep of the retry loop or for the peer; every schedule is bounded.  For Close the `closeCh` case of `recv` is necessary
and enough (`close_promptV`); the fast path of `reconnecting` is what spares a `Do` the auth timeout.
Found: the one thing Close still waits for is a dial in progress (`C14.close_waits_for_dial_in_progress`).

Go code mirrored (go/client/client.go); the pc names the statement ABOUT to be executed.

  Do (caller i; `Act.doCall` starts caller nD)              reconnecting(conn g) (notifier t; `Act.lose g` starts notifier nN)
    c.RLock()                              DPc.wantR  (*)       if c.closed() { return }                    NPc.enter g  (+ onConnClose's test)
    conn := c.conn; nil → return; register DPc.inR              if atomic.Load(&c.recovering)==1 { return } NPc.fast g   (not in noFastPath/neither)
    conn.Write(..)  (err → return)         DPc.write            c.Lock()                                    NPc.wantW g → pend1 g (**)
    recv: select {                         DPc.wait             if c.doReconnectting || c.conn != conn {    NPc.locked g
      case p, ok := <-w.ch                   Act.dRecv i          c.Unlock(); return }                      NPc.skip
      case <-ctx.Done()                      Act.dTimeout i     c.doReconnectting = true                    NPc.setDo
      case <-c.closeCh }                     Act.dCloseCase i   atomic.Store(&c.recovering, 1)              NPc.setAt
                                   (not in noCloseCase/neither) c.Unlock()                                  NPc.unlock1
    defer unregister; defer c.RUnlock()    DPc.unlock           go func() {…}()                             NPc.spawn
                                                                <-waitCh                                    NPc.waitRC
  Close (caller i; `Act.closeCall` starts caller nC)            c.Lock()                                    NPc.wantW2 → pend2 (**)
    c.closeOnce.Do(func() {                CPc.once  (Act.c i)  c.doReconnectting = false                   NPc.clrDo
      close(c.closeCh)                     BPc.sig   (Act.body) atomic.Store(&c.recovering, 0)              NPc.clrAt
      c.RLock()                            BPc.wantR (*)        c.Unlock()                                  NPc.unlock2
      if c.conn != nil { c.conn.Close() }  BPc.inR
      c.RUnlock()                          BPc.unlockR        retry goroutine (one slot `rc`, its notifier `rcOwner`)
      onClose(err) })                      BPc.cb, BPc.rel      for { if c.closed() { return }              RPc.top
                                                                reconnect(): MaxReconnect test              RPc.chkMax   (Act.rChkMax hit)
  (*)  RLock is enabled iff writer = none ∧ pendW = 0             c.RLock(); old := c.conn; c.RUnlock()     RPc.oWantR (*), oInR
  (**) Lock is two steps: wantW → pend (pendW+1, always              old.Close(..)                            RPc.closeOld
       enabled) and pend → holder (enabled iff writer = none         close every w.ch; new table              RPc.failAll
       ∧ readers = 0; ANY pending goroutine may win: Go              dial: c.Lock()                           RPc.dWant → dPend (**)
       promises no order among writers)                                if c.closed() { return err }           RPc.dCheck
                                                                       c.conn, err = dialer(ctx, ..)          RPc.dDialing (Act.rDial ok)
  the request of auth()/reconnectDial() = a `Do` by the               defer c.Unlock()                        RPc.dUnlockOk / dUnlockFail
  retry goroutine: aWantR (*), aInR, aWrite, aWait (rRecv /         AuthInfo()==nil → return nil             RPc.authQ    (Act.rAuthQ need)
  rAuthTimeout / rCloseCase), aUnlock; `second` = the auth          auth() / reconnectDial()                 RPc.aWantR … aUnlock
  request after a rejected session (`ARes.again`)                 ok: if cb != nil && !c.closed() { cb() }    RPc.cbTest, cb
                                                                  ErrHitMaxReconnect: c.Close(err)            RPc.hmOnce, hmBody (Act.body)
                                                                  time.Sleep(1s)                              RPc.sleep    (Act.rSleepDone)
                                                                defer waitCh <- struct{}{}                    RPc.fin

Environment (`isEnv`): new `Do` / `Close` calls, loss notifications (any generation, any number: onConnClose, the
dispatcher's final error, keepalive), the answer to a request (`deliver i`) or to the auth request (`authDeliver`).
Timers (`isTimer`): a request deadline, the auth timeout, the end of the 1 s sleep.  Time is not modelled: a timer action is
always enabled where the code waits for it; the theorems say what happens WITHOUT them.
The dial: `dial` holds the write lock across `dialer(ctx, ..)`; its return (`rDial ok`) is a step of the retry goroutine and
counts as progress (`isProg`) — that the dialer returns (by its ctx timeout at the latest) is TRUSTED, and that Close may
have to wait for it is reported as a finding (`C14.close_waits_for_dial_in_progress`), not hidden.

Trusted: the RWMutex semantics as modelled (writer preference: a pending `Lock` blocks new `RLock`s; no order among pending
writers); sync.Once (later callers wait until f has returned); atomic
loads/stores; `conn.Write` and `conn.Close` return (view ConnThreads); the dialer returns; handlers and callbacks return.
Abstractions (all towards more behaviour): MaxReconnect is an oracle (`rChkMax hit`); a notifier may report any generation;
write results, the need for auth and the content of the auth answer are oracles; the waiter table is the pair of flags
`answered i` / `failed i` per caller.  One retry-goroutine slot: a second `go func()` while one runs is counted in the ghost
`spawnClash`, which is proved 0 (`one_retry_goroutine`), so the single slot loses nothing.
Not in this view: the first `Dial`; keepalive's ping (a read-locked section without a wait: like a `Do` whose write fails);
`recvsMu`, `stateMu` (sections without waits); what travels on the wire (views Waiters, Recovery, ConnThreads).
Three paths of the code are missing: a notifier that reports nil (`c.conn` after a failed dial) never wins the guard here
(generations are numbers, `cur = none` matches none), whereas in the code it starts a recovery (view Recovery has the case); and two
that only shorten schedules: `auth()` returning before any request (nil token getter, getter error), `Do` returning from its
read-locked section because `NewRequest` failed.

`Variant` switches the two guards off one by one; `step`, `run` are the code (`Variant.code`).  The invariant and the measure
hold for all four, progress for the two that have the `closeCh` case (hypothesis `v.closeCase = true`).

Proved for every interleaving (`run init acts = some s →`, or `WInv s →` where that is all the proof uses):
  inv_stepV, inv_reach(V)                   the invariant `WInv`
  mutex_exclusive, one_retry_goroutine, flag_agrees            safety of lock, guard, flags
  no_dial_entered_after_signal, WInv.noDial, WInv.late         dial vs Close
  mu_stepV, mu_runV                         after the signal every goroutine step takes 1 off `mu`; a new call adds a constant
  lock_progressV                            the lock drains without timers
  close_progressV, close_prompt(V)          CLOSE RETURNS PROMPTLY: budget, never stuck on a timer, ends with Close returned
  can_always_finishV, close_leads_to_return(V)  a timer-free schedule to the end exists from every state
  do_returns_after_close(V)                 after the signal a request call has a step that is not its deadline, or the lock drains
  no_close_case_blocks_close                (noCloseCase) Close waits for a request deadline
  no_fast_path_blocks_close                 (neither) Close waits for the auth deadline
  no_fast_path_blocks_do_partial            (noFastPath) every Do waits for the auth deadline; Close does not (`close_promptV`)
  strandedD_step, strandedD_blocks          (code!) Close waits for a dial in progress
  dial_in_progress_installs_after_signal    (code) such a dial installs its conn after the signal (Close then closes it)
-/
import OAP.LTS
namespace OAP.LockWait

def upd {α} (f : Nat → α) (k : Nat) (v : α) : Nat → α := fun x => if x = k then v else f x
theorem upd_app {α} (f : Nat → α) (k : Nat) (v : α) (x : Nat) : upd f k v x = if x = k then v else f x := rfl
@[simp] theorem upd_same {α} (f : Nat → α) k v : upd f k v k = v := by simp [upd]
@[simp] theorem upd_other {α} (f : Nat → α) k v x (h : x ≠ k) : upd f k v x = f x := by simp [upd, h]

/-- `code`: the tree as it is.  `noCloseCase`: `recv` without `case <-c.closeCh` (before the repair of D24).
`noFastPath`: `reconnecting` without the atomic `recovering` test (before the repair of D20).  `neither`: both guards
off (the tree in which D20 was found). -/
inductive Variant | code | noCloseCase | noFastPath | neither
deriving DecidableEq, Repr

def Variant.closeCase : Variant → Bool
  | .code | .noFastPath => true
  | _ => false
def Variant.fastPath : Variant → Bool
  | .code | .noCloseCase => true
  | _ => false

/-- the goroutines that take the WRITE lock: notifier t (`reconnecting`), the retry goroutine (`dial`) -/
inductive Tid | n (t : Nat) | r
deriving DecidableEq, Repr

/-- who runs the body of `closeOnce.Do`: Close caller i, or the retry goroutine (hit-max) -/
inductive Who | x (i : Nat) | r
deriving DecidableEq, Repr

/-- next operation of the body of `closeOnce.Do` -/
inductive BPc
  | sig        -- close(c.closeCh)
  | wantR      -- c.RLock()
  | inR        -- if c.conn != nil { c.conn.Close(..) }
  | unlockR    -- c.RUnlock()
  | cb         -- onClose(err)
  | rel        -- the body returns, Do returns, Close returns
deriving DecidableEq, Repr

inductive Once | free | held (who : Who) (next : BPc) | done
deriving DecidableEq, Repr

/-- a caller of `Do` -/
inductive DPc
  | idle       -- not started
  | wantR      -- c.RLock()
  | inR        -- conn := c.conn; nil → return (deferred RUnlock); register
  | write      -- conn.Write
  | wait       -- recv: at the select
  | unlock     -- deferred unregister, RUnlock; return
  | ret
deriving DecidableEq, Repr

/-- a loss notifier: `onConnClose(conn)` / `reconnecting(conn)` for conn generation g -/
inductive NPc
  | idle
  | enter (g : Nat)    -- `closed()` test (onConnClose's and reconnecting's: the same test twice)
  | fast (g : Nat)     -- atomic.Load(&c.recovering)
  | wantW (g : Nat)    -- calls c.Lock()
  | pend1 (g : Nat)    -- blocked in c.Lock(): a pending writer
  | locked (g : Nat)   -- holds the lock: `c.doReconnectting || c.conn != conn`
  | skip               -- c.Unlock(); return
  | setDo              -- c.doReconnectting = true
  | setAt              -- atomic.Store(&c.recovering, 1)
  | unlock1            -- c.Unlock()
  | spawn              -- go func() {…}()
  | waitRC             -- <-waitCh
  | wantW2             -- calls c.Lock()
  | pend2              -- blocked in c.Lock()
  | clrDo              -- c.doReconnectting = false
  | clrAt              -- atomic.Store(&c.recovering, 0)
  | unlock2            -- c.Unlock()
  | done
deriving DecidableEq, Repr

/-- outcome of the request made by `auth` / `reconnectDial` -/
inductive ARes | ok | fail | again
deriving DecidableEq, Repr

/-- the retry goroutine -/
inductive RPc
  | none
  | top            -- for { if c.closed() { return }
  | chkMax         -- reconnect(): the MaxReconnect test
  | oWantR         -- c.RLock()
  | oInR           -- old := c.conn; c.RUnlock()
  | closeOld       -- old.Close(..)
  | failAll        -- close every w.ch, new table
  | dWant          -- dial: calls c.Lock()
  | dPend          -- blocked in c.Lock()
  | dCheck         -- holds the lock: if c.closed() { return errClientClosed }
  | dDialing       -- holds the lock: inside dialer(ctx, ..)
  | dUnlockOk      -- deferred c.Unlock(), dial returned nil
  | dUnlockFail    -- deferred c.Unlock(), dial returned an error
  | authQ          -- AuthInfo() == nil → return nil; else auth() / reconnectDial()
  | aWantR (second : Bool)              -- the request's Do: c.RLock()
  | aInR (second : Bool)                -- conn := c.conn; register
  | aWrite (second : Bool)              -- conn.Write
  | aWait (second : Bool)               -- recv: at the select (AuthTimeout)
  | aUnlock (second : Bool) (res : ARes) -- deferred unregister, RUnlock
  | cbTest         -- if c.afterReconnected != nil && !c.closed()
  | cb             -- c.afterReconnected()
  | sleep          -- time.Sleep(1s)
  | hmOnce         -- c.Close(ErrHitMaxReconnect): at closeOnce.Do
  | hmBody         -- inside the body of closeOnce.Do (progress: `Once.held .r next`)
  | fin            -- defer: waitCh <- struct{}{}
deriving DecidableEq, Repr

/-- a caller of `Close` -/
inductive CPc | idle | once | body | ret
deriving DecidableEq, Repr

structure St where
  -- c.RWMutex
  readers : Nat              -- read holds
  writer : Option Tid        -- the write holder
  pendW : Nat                -- goroutines blocked in Lock()
  closeSig : Bool            -- closeCh is closed
  once : Once                -- c.closeOnce
  reconn : Bool              -- c.doReconnectting
  recovering : Bool          -- atomic c.recovering
  cur : Option Nat           -- c.conn: generation (none = nil: the last dial failed)
  nextGen : Nat
  dpc : Nat → DPc
  nD : Nat                   -- Do callers started so far (ids 0 … nD-1)
  answered : Nat → Bool      -- a packet is in caller i's w.ch
  failed : Nat → Bool        -- caller i's w.ch was closed by reconnect
  npc : Nat → NPc
  nN : Nat                   -- notifiers started so far
  rc : RPc
  rcOwner : Nat              -- the notifier whose waitCh the retry goroutine signals
  authAns : Bool             -- a packet is in the auth request's w.ch
  cpc : Nat → CPc
  nC : Nat                   -- Close callers started so far
  -- ghosts
  own : Nat                  -- the last notifier that passed the guard under the write lock
  spawnClash : Nat           -- retry goroutines started while another one was running
  lateInstalls : Nat         -- conns installed by dial after the RUnlock of Close's body
  doReturns : Nat
  closeReturns : Nat

inductive Act
  -- environment: API calls, losses, the peer
  | doCall                       -- a new goroutine calls Do (id nD)
  | closeCall                    -- a new goroutine calls Close (id nC)
  | lose (g : Nat)               -- a loss of conn g is noticed: a new notifier (id nN)
  | deliver (i : Nat)            -- the answer for caller i is put into its w.ch
  | authDeliver                  -- the answer for the auth / resume request
  -- Do callers
  | d (i : Nat)                  -- RLock / pick conn + register / unregister + RUnlock
  | dWrite (i : Nat) (ok : Bool)
  | dRecv (i : Nat)              -- select: case <-w.ch (a packet, or closed)
  | dTimeout (i : Nat)           -- select: case <-ctx.Done()
  | dCloseCase (i : Nat)         -- select: case <-c.closeCh
  -- notifiers
  | n (t : Nat)
  -- the retry goroutine
  | r                            -- its next statement, where the outcome is determined by the state
  | rChkMax (hit : Bool)
  | rDial (ok : Bool)            -- the dialer returns
  | rAuthQ (need : Bool)
  | rWrite (ok : Bool)
  | rRecv (res : ARes)
  | rAuthTimeout
  | rCloseCase (res : ARes)
  | rSleepDone                   -- the 1 s sleep is over
  -- Close
  | c (i : Nat)                  -- at closeOnce.Do
  | body                         -- next operation of the body, by whoever holds the Once
deriving DecidableEq, Repr

/-- the waiter of caller i is in the table -/
def isReg : DPc → Bool
  | .write | .wait => true
  | _ => false

def stepDo (v : Variant) (s : St) : Act → Option St
  | .d i =>
      match s.dpc i with
      | .wantR => if s.writer = none ∧ s.pendW = 0
                  then some { s with readers := s.readers + 1, dpc := upd s.dpc i .inR } else none
      | .inR =>
          match s.cur with
          | none => some { s with dpc := upd s.dpc i .unlock }
          | some _ => some { s with dpc := upd s.dpc i .write, answered := upd s.answered i false,
                                    failed := upd s.failed i false }
      | .unlock => some { s with readers := s.readers - 1, dpc := upd s.dpc i .ret, doReturns := s.doReturns + 1 }
      | _ => none
  | .dWrite i ok =>
      match s.dpc i with
      | .write => if ok then some { s with dpc := upd s.dpc i .wait } else some { s with dpc := upd s.dpc i .unlock }
      | _ => none
  | .dRecv i =>
      match s.dpc i with
      | .wait => if s.answered i || s.failed i then some { s with dpc := upd s.dpc i .unlock } else none
      | _ => none
  | .dTimeout i =>
      match s.dpc i with
      | .wait => some { s with dpc := upd s.dpc i .unlock }
      | _ => none
  | .dCloseCase i =>
      match s.dpc i with
      | .wait => if s.closeSig && v.closeCase then some { s with dpc := upd s.dpc i .unlock } else none
      | _ => none
  | _ => none

/-- second half of `reconnecting`: from `<-waitCh` on -/
def stepN2 (s : St) (t : Nat) : Option St :=
  match s.npc t with
  | .waitRC => if s.rc = .fin ∧ s.rcOwner = t then some { s with rc := .none, npc := upd s.npc t .wantW2 } else none
  | .wantW2 => some { s with pendW := s.pendW + 1, npc := upd s.npc t .pend2 }
  | .pend2 => if s.writer = none ∧ s.readers = 0
              then some { s with pendW := s.pendW - 1, writer := some (.n t), npc := upd s.npc t .clrDo }
              else none
  | .clrDo => some { s with reconn := false, npc := upd s.npc t .clrAt }
  | .clrAt => some { s with recovering := false, npc := upd s.npc t .unlock2 }
  | .unlock2 => some { s with writer := none, npc := upd s.npc t .done }
  | _ => none

def stepN (v : Variant) (s : St) (t : Nat) : Option St :=
  match s.npc t with
  | .enter g => if s.closeSig then some { s with npc := upd s.npc t .done }
                else some { s with npc := upd s.npc t (.fast g) }
  | .fast g => if v.fastPath && s.recovering then some { s with npc := upd s.npc t .done }
               else some { s with npc := upd s.npc t (.wantW g) }
  | .wantW g => some { s with pendW := s.pendW + 1, npc := upd s.npc t (.pend1 g) }
  | .pend1 g => if s.writer = none ∧ s.readers = 0
                then some { s with pendW := s.pendW - 1, writer := some (.n t), npc := upd s.npc t (.locked g) }
                else none
  | .locked g => if s.reconn = true ∨ s.cur ≠ some g then some { s with npc := upd s.npc t .skip }
                 else some { s with npc := upd s.npc t .setDo, own := t }
  | .skip => some { s with writer := none, npc := upd s.npc t .done }
  | .setDo => some { s with reconn := true, npc := upd s.npc t .setAt }
  | .setAt => some { s with recovering := true, npc := upd s.npc t .unlock1 }
  | .unlock1 => some { s with writer := none, npc := upd s.npc t .spawn }
  | .spawn => some { s with rc := .top, rcOwner := t, npc := upd s.npc t .waitRC,
                            spawnClash := if s.rc = .none then s.spawnClash else s.spawnClash + 1 }
  | _ => stepN2 s t

def stepR (v : Variant) (s : St) : Act → Option St
  | .r =>
      match s.rc with
      | .top => if s.closeSig then some { s with rc := .fin } else some { s with rc := .chkMax }
      | .oWantR => if s.writer = none ∧ s.pendW = 0 then some { s with readers := s.readers + 1, rc := .oInR } else none
      | .oInR => some { s with readers := s.readers - 1, rc := .closeOld }
      | .closeOld => some { s with rc := .failAll }
      | .failAll => some { s with failed := fun i => if isReg (s.dpc i) then true else s.failed i, rc := .dWant }
      | .dWant => some { s with pendW := s.pendW + 1, rc := .dPend }
      | .dPend => if s.writer = none ∧ s.readers = 0
                  then some { s with pendW := s.pendW - 1, writer := some .r, rc := .dCheck } else none
      | .dCheck => if s.closeSig then some { s with rc := .dUnlockFail } else some { s with rc := .dDialing }
      | .dUnlockOk => some { s with writer := none, rc := .authQ }
      | .dUnlockFail => some { s with writer := none, rc := .sleep }
      | .aWantR b => if s.writer = none ∧ s.pendW = 0 then some { s with readers := s.readers + 1, rc := .aInR b } else none
      | .aInR b =>
          match s.cur with
          | none => some { s with rc := .aUnlock b .fail }
          | some _ => some { s with rc := .aWrite b, authAns := false }
      | .aUnlock _ .ok => some { s with readers := s.readers - 1, rc := .cbTest }
      | .aUnlock _ .fail => some { s with readers := s.readers - 1, rc := .sleep }
      | .aUnlock true .again => some { s with readers := s.readers - 1, rc := .sleep }
      | .aUnlock false .again => some { s with readers := s.readers - 1, rc := .aWantR true }
      | .cbTest => if s.closeSig then some { s with rc := .fin } else some { s with rc := .cb }
      | .cb => some { s with rc := .fin }
      | .hmOnce =>
          match s.once with
          | .free => some { s with once := .held .r .sig, rc := .hmBody }
          | .done => some { s with rc := .fin }
          | .held _ _ => none
      | _ => none
  | .rChkMax hit =>
      match s.rc with
      | .chkMax => if hit then some { s with rc := .hmOnce } else some { s with rc := .oWantR }
      | _ => none
  | .rDial ok =>
      match s.rc with
      | .dDialing =>
          if ok then some { s with cur := some s.nextGen, nextGen := s.nextGen + 1, rc := .dUnlockOk,
                                   lateInstalls := match s.once with
                                     | .held _ .cb | .held _ .rel | .done => s.lateInstalls + 1
                                     | _ => s.lateInstalls }
          else some { s with cur := none, rc := .dUnlockFail }
      | _ => none
  | .rAuthQ need =>
      match s.rc with
      | .authQ => if need then some { s with rc := .aWantR false } else some { s with rc := .cbTest }
      | _ => none
  | .rWrite ok =>
      match s.rc with
      | .aWrite b => if ok then some { s with rc := .aWait b } else some { s with rc := .aUnlock b .fail }
      | _ => none
  | .rRecv res =>
      match s.rc with
      | .aWait b => if s.authAns then some { s with rc := .aUnlock b res } else none
      | _ => none
  | .rAuthTimeout =>
      match s.rc with
      | .aWait b => some { s with rc := .aUnlock b .fail }
      | _ => none
  | .rCloseCase res =>
      match s.rc with
      | .aWait b => if s.closeSig && v.closeCase
                    then (if s.authAns then some { s with rc := .aUnlock b res } else some { s with rc := .aUnlock b .fail })
                    else none
      | _ => none
  | .rSleepDone =>
      match s.rc with
      | .sleep => some { s with rc := .top }
      | _ => none
  | _ => none

def stepC (s : St) : Act → Option St
  | .c i =>
      match s.cpc i with
      | .once =>
          match s.once with
          | .free => some { s with once := .held (.x i) .sig, cpc := upd s.cpc i .body }
          | .done => some { s with cpc := upd s.cpc i .ret, closeReturns := s.closeReturns + 1 }
          | .held _ _ => none
      | _ => none
  | .body =>
      match s.once with
      | .held who .sig => some { s with once := .held who .wantR, closeSig := true }
      | .held who .wantR => if s.writer = none ∧ s.pendW = 0
                            then some { s with once := .held who .inR, readers := s.readers + 1 } else none
      | .held who .inR => some { s with once := .held who .unlockR }
      | .held who .unlockR => some { s with once := .held who .cb, readers := s.readers - 1 }
      | .held who .cb => some { s with once := .held who .rel }
      | .held (.x i) .rel => some { s with once := .done, cpc := upd s.cpc i .ret, closeReturns := s.closeReturns + 1 }
      | .held .r .rel => some { s with once := .done, rc := .fin }
      | _ => none
  | _ => none

def stepEnv (s : St) : Act → Option St
  | .doCall => some { s with dpc := upd s.dpc s.nD .wantR, nD := s.nD + 1 }
  | .closeCall => some { s with cpc := upd s.cpc s.nC .once, nC := s.nC + 1 }
  | .lose g => some { s with npc := upd s.npc s.nN (.enter g), nN := s.nN + 1 }
  | .deliver i => if isReg (s.dpc i) && !s.failed i then some { s with answered := upd s.answered i true } else none
  | .authDeliver =>
      match s.rc with
      | .aWrite _ => some { s with authAns := true }
      | .aWait _ => some { s with authAns := true }
      | _ => none
  | _ => none

def stepV (v : Variant) (s : St) : Act → Option St
  | .doCall => stepEnv s .doCall
  | .closeCall => stepEnv s .closeCall
  | .lose g => stepEnv s (.lose g)
  | .deliver i => stepEnv s (.deliver i)
  | .authDeliver => stepEnv s .authDeliver
  | .d i => stepDo v s (.d i)
  | .dWrite i ok => stepDo v s (.dWrite i ok)
  | .dRecv i => stepDo v s (.dRecv i)
  | .dTimeout i => stepDo v s (.dTimeout i)
  | .dCloseCase i => stepDo v s (.dCloseCase i)
  | .n t => stepN v s t
  | .r => stepR v s .r
  | .rChkMax hit => stepR v s (.rChkMax hit)
  | .rDial ok => stepR v s (.rDial ok)
  | .rAuthQ need => stepR v s (.rAuthQ need)
  | .rWrite ok => stepR v s (.rWrite ok)
  | .rRecv res => stepR v s (.rRecv res)
  | .rAuthTimeout => stepR v s .rAuthTimeout
  | .rCloseCase res => stepR v s (.rCloseCase res)
  | .rSleepDone => stepR v s .rSleepDone
  | .c i => stepC s (.c i)
  | .body => stepC s .body

def init : St :=
  { readers := 0, writer := none, pendW := 0, closeSig := false, once := .free, reconn := false, recovering := false,
    cur := some 0, nextGen := 1, dpc := fun _ => .idle, nD := 0, answered := fun _ => false, failed := fun _ => false,
    npc := fun _ => .idle, nN := 0, rc := .none, rcOwner := 0, authAns := false, cpc := fun _ => .idle, nC := 0,
    own := 0, spawnClash := 0, lateInstalls := 0, doReturns := 0, closeReturns := 0 }

def runV (v : Variant) : St → List Act → Option St
  | s, [] => some s
  | s, a :: as => (stepV v s a).bind (fun s' => runV v s' as)

/-- the code as it is -/
abbrev step (s : St) (a : Act) : Option St := stepV .code s a
abbrev run (s : St) (acts : List Act) : Option St := runV .code s acts

theorem isRunV (v : Variant) : LTS.IsRun (stepV v) (runV v) := ⟨fun _ => rfl, fun _ _ _ => rfl⟩

theorem runV_append {v : Variant} (as bs : List Act) : ∀ (s s' : St),
    runV v s (as ++ bs) = some s' ↔ ∃ s1, runV v s as = some s1 ∧ runV v s1 bs = some s' :=
  (isRunV v).append as bs

/-! ### counting threads: `cnt w f n` = Σ_{i<n} w (f i) -/

def cnt {α} (w : α → Nat) (f : Nat → α) : Nat → Nat
  | 0 => 0
  | n + 1 => cnt w f n + w (f n)

theorem cnt_succ {α} (w : α → Nat) (f : Nat → α) (n : Nat) : cnt w f (n + 1) = cnt w f n + w (f n) := rfl

theorem cnt_upd_ge {α} (w : α → Nat) (f : Nat → α) (i : Nat) (v : α) : ∀ n, n ≤ i → cnt w (upd f i v) n = cnt w f n := by
  intro n
  induction n with
  | zero => intro _; rfl
  | succ n ih =>
    intro h
    rw [cnt_succ, cnt_succ, ih (by omega), upd_other _ _ _ _ (by omega)]

theorem cnt_upd_lt {α} (w : α → Nat) (f : Nat → α) (i : Nat) (v : α) :
    ∀ n, i < n → cnt w (upd f i v) n + w (f i) = cnt w f n + w v := by
  intro n
  induction n with
  | zero => intro h; omega
  | succ n ih =>
    intro h
    rw [cnt_succ, cnt_succ]
    by_cases hi : i = n
    · subst hi; rw [cnt_upd_ge w f i v i (Nat.le_refl _), upd_same]; omega
    · have := ih (by omega); rw [upd_other _ _ _ _ (fun h => hi h.symm)]; omega
grind_pattern cnt_upd_lt => cnt w (upd f i v) n

theorem cnt_fresh {α} (w : α → Nat) (f : Nat → α) (n : Nat) (v : α) : cnt w (upd f n v) (n + 1) = cnt w f n + w v := by
  rw [cnt_succ, cnt_upd_ge w f n v n (Nat.le_refl _), upd_same]

theorem cnt_pos {α} (w : α → Nat) (f : Nat → α) : ∀ n, 0 < cnt w f n → ∃ i, i < n ∧ 0 < w (f i) := by
  intro n
  induction n with
  | zero => intro h; simp [cnt] at h
  | succ n ih =>
    intro h
    rw [cnt_succ] at h
    by_cases h0 : 0 < w (f n)
    · exact ⟨n, by omega, h0⟩
    · obtain ⟨i, hi, hw⟩ := ih (by omega); exact ⟨i, by omega, hw⟩

theorem cnt_ge {α} (w : α → Nat) (f : Nat → α) (i : Nat) : ∀ n, i < n → w (f i) ≤ cnt w f n := by
  intro n
  induction n with
  | zero => intro h; omega
  | succ n ih =>
    intro h
    rw [cnt_succ]
    by_cases hi : i = n
    · subst hi; omega
    · have := ih (by omega); omega

theorem cnt_ge2 {α} (w : α → Nat) (f : Nat → α) (i j : Nat) (hij : i ≠ j) :
    ∀ n, i < n → j < n → w (f i) + w (f j) ≤ cnt w f n := by
  intro n
  induction n with
  | zero => intro h; omega
  | succ n ih =>
    intro h1 h2
    rw [cnt_succ]
    by_cases hi : i = n
    · subst hi; have := cnt_ge w f j i (by omega); omega
    · by_cases hj : j = n
      · subst hj; have := cnt_ge w f i j (by omega); omega
      · have := ih (by omega) (by omega); omega

theorem cnt_zero {α} (w : α → Nat) (f : Nat → α) (n : Nat) (h : cnt w f n = 0) : ∀ i, i < n → w (f i) = 0 := by
  intro i hi; have := cnt_ge w f i n hi; omega

/-- read holds of a `Do` caller -/
def rdD : DPc → Nat
  | .inR | .write | .wait | .unlock => 1
  | _ => 0
/-- read hold of the body of `closeOnce.Do` -/
def rdOnce : Once → Nat
  | .held _ .inR | .held _ .unlockR => 1
  | _ => 0
/-- read hold of the retry goroutine (`old := c.conn`, the request's `Do`) -/
def rdR : RPc → Nat
  | .oInR | .aInR _ | .aWrite _ | .aWait _ | .aUnlock _ _ => 1
  | _ => 0
/-- the notifier is blocked in `Lock()` -/
def pwN : NPc → Nat
  | .pend1 _ | .pend2 => 1
  | _ => 0
def pwR : RPc → Nat
  | .dPend => 1
  | _ => 0
def nHoldsW : NPc → Bool
  | .locked _ | .skip | .setDo | .setAt | .unlock1 | .clrDo | .clrAt | .unlock2 => true
  | _ => false
def rHoldsW : RPc → Bool
  | .dCheck | .dDialing | .dUnlockOk | .dUnlockFail => true
  | _ => false
/-- the notifier has passed the guard and not yet released the lock for the last time -/
def owns : NPc → Bool
  | .setDo | .setAt | .unlock1 | .spawn | .waitRC | .wantW2 | .pend2 | .clrDo | .clrAt | .unlock2 => true
  | _ => false
/-- `doReconnectting` is true on behalf of this notifier -/
def ownsDo : NPc → Bool
  | .setAt | .unlock1 | .spawn | .waitRC | .wantW2 | .pend2 | .clrDo => true
  | _ => false
/-- `recovering` is 1 on behalf of this notifier -/
def ownsAt : NPc → Bool
  | .unlock1 | .spawn | .waitRC | .wantW2 | .pend2 | .clrDo | .clrAt => true
  | _ => false
def sigDone : Once → Bool
  | .free => false | .held _ .sig => false | _ => true
def holder : Once → Option Who
  | .held who _ => some who | _ => none
/-- the body of `closeOnce.Do` is past its `RUnlock` -/
def pastR : Once → Bool
  | .held _ .cb | .held _ .rel | .done => true
  | _ => false

structure WInv (s : St) : Prop where
  excl : s.writer ≠ none → s.readers = 0
  rd : s.readers = cnt rdD s.dpc s.nD + rdOnce s.once + rdR s.rc
  pw : s.pendW = cnt pwN s.npc s.nN + pwR s.rc
  wN : ∀ t, s.writer = some (.n t) ↔ nHoldsW (s.npc t) = true
  wR : s.writer = some .r ↔ rHoldsW s.rc = true
  dB : ∀ i, s.nD ≤ i → s.dpc i = .idle
  nB : ∀ t, s.nN ≤ t → s.npc t = .idle
  cB : ∀ i, s.nC ≤ i → s.cpc i = .idle
  cS : ∀ i, i < s.nC → s.cpc i ≠ .idle
  sig : s.closeSig = sigDone s.once
  cBody : ∀ i, s.cpc i = .body ↔ holder s.once = some (.x i)
  rBody : s.rc = .hmBody ↔ holder s.once = some .r
  ownU : ∀ t, owns (s.npc t) = true → t = s.own
  fDo : s.reconn = ownsDo (s.npc s.own)
  fAt : s.recovering = ownsAt (s.npc s.own)
  rcN : s.rc ≠ .none → s.npc s.own = .waitRC
  rcO : s.rc ≠ .none → s.rcOwner = s.own
  wRC : ∀ t, s.npc t = .waitRC → s.rc ≠ .none
  clash : s.spawnClash = 0
  noDial : pastR s.once = true → s.rc ≠ .dDialing
  late : s.lateInstalls = 0

theorem inv_init : WInv init := by
  constructor <;> simp [init, cnt, rdOnce, rdR, pwR, nHoldsW, rHoldsW, sigDone, holder, owns, ownsDo, ownsAt, pastR]

theorem owns_cases (p : NPc) (h : owns p = true) : ownsDo p = true ∨ nHoldsW p = true := by
  cases p <;> simp_all [owns, ownsDo, nHoldsW]
theorem ownsAt_cases (p : NPc) (h : ownsAt p = true) : ownsDo p = true ∨ nHoldsW p = true := by
  cases p <;> simp_all [ownsAt, ownsDo, nHoldsW]
theorem pastR_sig (o : Once) (h : pastR o = true) : sigDone o = true := by
  cases o with
  | held w b => cases b <;> simp_all [pastR, sigDone]
  | _ => simp_all [pastR, sigDone]
theorem pastR_rd (o : Once) (h : pastR o = true) : rdOnce o = 0 := by
  cases o with
  | held w b => cases b <;> simp_all [pastR, rdOnce]
  | _ => simp_all [pastR, rdOnce]

/-! ### the notifiers' steps (Owicki–Gries)

Seven fields of `WInv` together say `∀ t, NOk s t (s.npc t)`: an assertion on notifier `t` at its pc that reads only the shared
variables of `s`.  A step of notifier `t` re-establishes `NOk` for itself at its new pc; the assertions of the others are stable
under what it writes to the shared variables. -/

def NOk (s : St) (t : Nat) (p : NPc) : Prop :=
  (s.writer = some (.n t) ↔ nHoldsW p = true) ∧ (s.nN ≤ t → p = .idle) ∧ (owns p = true → t = s.own) ∧
  (t = s.own → s.reconn = ownsDo p ∧ s.recovering = ownsAt p ∧ (s.rc ≠ .none → p = .waitRC)) ∧
  (p = .waitRC → s.rc ≠ .none)

theorem WInv.nOk {s : St} (h : WInv s) (t : Nat) : NOk s t (s.npc t) :=
  ⟨h.wN t, h.nB t, h.ownU t, fun e => by subst e; exact ⟨h.fDo, h.fAt, h.rcN⟩, h.wRC t⟩

theorem nOk_upd {s s' : St} {t : Nat} {p' : NPc} (h : WInv s) (e : s'.npc = upd s.npc t p') (ht : NOk s' t p')
    (ho : ∀ u, u ≠ t → NOk s u (s.npc u) → NOk s' u (s.npc u)) (u : Nat) : NOk s' u (s'.npc u) := by
  rw [e]
  by_cases hu : u = t
  · subst hu; rw [upd_same]; exact ht
  · rw [upd_other _ _ _ _ hu]; exact ho u hu (h.nOk u)

theorem owns_waitRC : owns .waitRC = true := rfl
theorem ownsDo_waitRC : ownsDo .waitRC = true := rfl

section notifier
attribute [local grind =] owns_waitRC ownsDo_waitRC
attribute [local grind →] owns_cases ownsAt_cases
attribute [local grind] pwN pwR rHoldsW rdR

/-- `n` is the assertion of the moving notifier at its pc, `o` that of the owner of the recovery.  At every leaf `k` (the mover's
assertion at its new pc, the others' stable: `fun _ _ h => h` when no shared variable that `NOk` reads has changed) gives the
seven fields that speak of `npc`; of the other fourteen a notifier's step can change eight, and each of these follows from `n` and `o`,
four of them (`rd`, `pw`, `wR`, `rBody`) together with its old self. -/
theorem inv_n (v : Variant) (s s' : St) (t : Nat) (h : WInv s) (hs : stepN v s t = some s') : WInv s' := by
  have n := h.nOk t
  have o := h.nOk s.own
  simp only [stepN, stepN2] at hs
  simp only [NOk] at o
  generalize hp : s.npc t = p at n hs
  -- `simp only []` reduces the `match` on the pc, now a constructor; the `refine` below lists the 21 fields in the order of `WInv`
  cases p <;> simp only [] at hs <;> (repeat' split at hs) <;> (try (simp at hs; done)) <;>
    simp only [Option.some.injEq] at hs <;>
    simp only [NOk, nHoldsW, owns, ownsDo, ownsAt, reduceCtorEq] at n <;>
    (have k := nOk_upd (s' := s') h (by subst hs; rfl)
        (by subst hs; simp only [NOk, nHoldsW, owns, ownsDo, ownsAt, reduceCtorEq]; grind)
        (by subst hs; first | exact fun _ _ h => h | (simp only [NOk]; grind))
     subst hs
     refine ⟨?excl, ?rd, ?pw, fun t => (k t).1, ?wR, h.dB, fun t => (k t).2.1, h.cB, h.cS, h.sig, h.cBody, ?rBody,
       fun t => (k t).2.2.1, ((k _).2.2.2.1 rfl).1, ((k _).2.2.2.1 rfl).2.1, ((k _).2.2.2.1 rfl).2.2, ?rcO,
       fun t => (k t).2.2.2.2, ?clash, ?noDial, h.late⟩
     case excl => first | with_reducible exact h.excl | (clear k; grind)
     case rd => first | with_reducible exact h.rd | (have := h.rd; clear k; grind)
     case pw => first | with_reducible exact h.pw | (have := h.pw; clear k; grind)
     case wR => first | with_reducible exact h.wR | (have := h.wR; clear k; grind)
     case rBody => first | with_reducible exact h.rBody | (have := h.rBody; clear k; grind)
     case rcO => first | with_reducible exact h.rcO | (clear k; grind)
     case clash => first | with_reducible exact h.clash | (clear k; grind)
     case noDial => first | with_reducible exact h.noDial | (clear k; grind))
end notifier

section invariant
attribute [local grind =] upd_app cnt_fresh
attribute [local grind] rdD rdOnce rdR pwN pwR nHoldsW rHoldsW owns ownsDo ownsAt sigDone holder pastR
attribute [local grind →] pastR_sig

/-- a notifier's step is `inv_n`; the others field by field (the scheme is explained in `OAP/LTS.lean`) -/
theorem inv_stepV (v : Variant) (s : St) (a : Act) (s' : St) (i : WInv s) (hs : stepV v s a = some s') : WInv s' := by
  cases a <;> simp only [stepV, stepEnv, stepDo, stepR, stepC] at hs
  case n t => exact inv_n v s s' t i hs
  all_goals
    (repeat' split at hs) <;> cases hs <;>
    (constructor
     case excl => first | with_reducible exact i.excl | (have := i.excl; intros; grind)
     case rd => first | with_reducible exact i.rd | (have := i.rd; have := i.dB; have := i.rBody; intros; grind)
     case pw => first | with_reducible exact i.pw | (have := i.pw; have := i.rBody; intros; grind)
     case wN => first | with_reducible exact i.wN | (have := i.wN; have := i.wR; have := i.nB; intros; grind)
     case wR => first | with_reducible exact i.wR | (have := i.wR; have := i.rBody; intros; grind)
     case dB => first | with_reducible exact i.dB | (have := i.dB; intros; grind)
     case nB => first | with_reducible exact i.nB | (have := i.nB; intros; grind)
     case cB => first | with_reducible exact i.cB | (have := i.cB; have := i.cBody; intros; grind)
     case cS => first | with_reducible exact i.cS | (have := i.cS; intros; grind)
     case sig => first | with_reducible exact i.sig | (have := i.sig; intros; grind)
     case cBody => first | with_reducible exact i.cBody | (have := i.cB; have := i.cBody; intros; grind)
     case rBody => first | with_reducible exact i.rBody | (have := i.rBody; intros; grind)
     case ownU => first | with_reducible exact i.ownU | (have := i.ownU; intros; grind)
     case fDo => first | with_reducible exact i.fDo | (have := i.nB; have := i.fDo; intros; grind)
     case fAt => first | with_reducible exact i.fAt | (have := i.nB; have := i.fAt; intros; grind)
     case rcN => first | with_reducible exact i.rcN | (have := i.nB; have := i.rBody; have := i.rcN; intros; grind)
     case rcO => first | with_reducible exact i.rcO | (have := i.rBody; have := i.rcO; intros; grind)
     case wRC => first | with_reducible exact i.wRC | (have := i.wRC; intros; grind)
     case clash => exact i.clash
     case noDial => first | with_reducible exact i.noDial | (have := i.excl; have := i.rd; have := i.wR; have := i.sig; have := i.noDial; intros; grind)
     case late => first | with_reducible exact i.late | (have := i.noDial; intros; grind))
end invariant

theorem inv_runV (v : Variant) (acts : List Act) (s s' : St) (h : WInv s) (hr : runV v s acts = some s') : WInv s' :=
  (isRunV v).inv (inv_stepV v) acts s s' h hr

theorem inv_reachV (v : Variant) (acts : List Act) (s : St) (h : runV v init acts = some s) : WInv s :=
  inv_runV v acts _ s inv_init h

theorem inv_reach (acts : List Act) (s : St) (h : run init acts = some s) : WInv s := inv_reachV .code acts s h

theorem two_readers (s : St) (hi : WInv s) (i j : Nat) (hij : i ≠ j) :
    rdD (s.dpc i) + rdD (s.dpc j) + rdOnce s.once + rdR s.rc ≤ s.readers := by
  rw [hi.rd]
  have h0 : ∀ k, s.nD ≤ k → rdD (s.dpc k) = 0 := fun k hk => by rw [hi.dB k hk]; rfl
  by_cases hi' : i < s.nD <;> by_cases hj : j < s.nD
  · have := cnt_ge2 rdD s.dpc i j hij s.nD hi' hj; omega
  · have := cnt_ge rdD s.dpc i s.nD hi'; have := h0 j (by omega); omega
  · have := cnt_ge rdD s.dpc j s.nD hj; have := h0 i (by omega); omega
  · have := h0 i (by omega); have := h0 j (by omega); omega

/-- API calls, losses, the peer -/
def isEnv : Act → Bool
  | .doCall | .closeCall | .lose _ | .deliver _ | .authDeliver => true
  | _ => false
/-- the timers: a request deadline (`ctx.Done()`), the auth timeout, the 1 s sleep of the retry loop -/
def isTimer : Act → Bool
  | .dTimeout _ | .rAuthTimeout | .rSleepDone => true
  | _ => false
/-- a step of a goroutine of the client -/
def isThread (a : Act) : Bool := !isEnv a
/-- a step of a goroutine that waits neither for a timer nor for the environment -/
def isProg (a : Act) : Bool := !isEnv a && !isTimer a

def threadSteps (acts : List Act) : Nat := (acts.filter isThread).length
@[simp] theorem threadSteps_nil : threadSteps [] = 0 := rfl
theorem threadSteps_cons (a : Act) (as : List Act) :
    threadSteps (a :: as) = (if isThread a then 1 else 0) + threadSteps as := LTS.length_filter_cons _ a as

/-- the budget a new call brings with it: the measure of the pc it starts at (`muD .wantR`, `muC .once`, `muN (.enter _)`) -/
def fresh : Act → Nat
  | .doCall => 5 | .closeCall => 7 | .lose _ => 16 | _ => 0
def freshBudget : List Act → Nat
  | [] => 0
  | a :: as => fresh a + freshBudget as

/-! ### the measure: steps each goroutine still makes once the close signal is set

An entry is the length of the LONGEST path from that pc to the goroutine's exit when `closeSig = true` (`chkMax 23 → … → dCheck 16 →
dUnlockFail 3 → sleep 2 → top 1 → fin 0`; `top` is 1 because under the signal its one step is the exit; `locked 12 → skip 1` is a
short cut). A step that hands work to another component counts that work: `spawn 8 = waitRC 6 + top 1 + 1`,
`hmOnce 7 = muH (held sig) 6 + 1` and `hmBody 0` (the Once body is counted in `muH`), `CPc.once 7` likewise. -/

def muD : DPc → Nat
  | .idle => 0 | .wantR => 5 | .inR => 4 | .write => 3 | .wait => 2 | .unlock => 1 | .ret => 0
def muN : NPc → Nat
  | .idle => 0 | .enter _ => 16 | .fast _ => 15 | .wantW _ => 14 | .pend1 _ => 13 | .locked _ => 12 | .skip => 1
  | .setDo => 11 | .setAt => 10 | .unlock1 => 9 | .spawn => 8 | .waitRC => 6 | .wantW2 => 5 | .pend2 => 4
  | .clrDo => 3 | .clrAt => 2 | .unlock2 => 1 | .done => 0
/-- the first request of an attempt may be followed by a second one -/
def aOff : Bool → Nat
  | true => 0 | false => 5
def muR : RPc → Nat
  | .none => 0 | .top => 1 | .chkMax => 23 | .oWantR => 22 | .oInR => 21 | .closeOld => 20 | .failAll => 19
  | .dWant => 18 | .dPend => 17 | .dCheck => 16 | .dDialing => 15 | .dUnlockOk => 14 | .dUnlockFail => 3 | .authQ => 13
  | .aWantR b => 7 + aOff b | .aInR b => 6 + aOff b | .aWrite b => 5 + aOff b | .aWait b => 4 + aOff b
  | .aUnlock b _ => 3 + aOff b
  | .cbTest => 2 | .cb => 1 | .sleep => 2 | .hmOnce => 7 | .hmBody => 0 | .fin => 0
def muC : CPc → Nat
  | .once => 7 | _ => 0
def muH : Once → Nat
  | .held _ .sig => 6 | .held _ .wantR => 5 | .held _ .inR => 4 | .held _ .unlockR => 3 | .held _ .cb => 2
  | .held _ .rel => 1 | _ => 0

def mu (s : St) : Nat := cnt muD s.dpc s.nD + cnt muN s.npc s.nN + cnt muC s.cpc s.nC + muR s.rc + muH s.once

section measure
attribute [local grind =] cnt_fresh
attribute [local grind] aOff muD muN muR muC muH holder

theorem mu_stepV (v : Variant) (s : St) (a : Act) (s' : St) (h : WInv s) (hc : s.closeSig = true) (hs : stepV v s a = some s') :
    s'.closeSig = true ∧ mu s' + (if isThread a then 1 else 0) ≤ mu s + fresh a := by
  have e1 := h.dB; have e2 := h.nB; have e3 := h.cB; have e4 := h.cBody
  cases a <;> simp only [stepV, stepEnv, stepDo, stepN, stepN2, stepR, stepC, hc] at hs <;> (repeat' split at hs) <;>
    cases hs <;> (refine ⟨by first | exact hc | rfl, ?_⟩; simp only [mu, isThread, isEnv, fresh]; grind)
end measure

theorem mu_runV {v : Variant} (acts : List Act) : ∀ s s', WInv s → s.closeSig = true → runV v s acts = some s' →
    s'.closeSig = true ∧ mu s' + threadSteps acts ≤ mu s + freshBudget acts := by
  induction acts with
  | nil => intro s s' _ hc hr; simp [runV] at hr; subst hr; exact ⟨hc, by simp [freshBudget]⟩
  | cons a as ih =>
    intro s s' hi hc hr
    obtain ⟨s1, h1, h2⟩ := (isRunV v).cons_some hr
    obtain ⟨c1, m1⟩ := mu_stepV v s a s1 hi hc h1
    obtain ⟨c2, m2⟩ := ih s1 s' (inv_stepV _ s a s1 hi h1) c1 h2
    rw [threadSteps_cons, freshBudget]
    exact ⟨c2, by omega⟩

def enabled (s : St) (a : Act) : Prop := (step s a).isSome = true

/-- whoever holds the write lock has an enabled step (the dial's return for a goroutine inside the dialer) -/
theorem writer_can_stepV {v : Variant} (s : St) (hi : WInv s) (hw : s.writer ≠ none) :
    ∃ a, isProg a = true ∧ (stepV v s a).isSome = true := by
  cases hwr : s.writer with
  | none => exact absurd hwr hw
  | some tid =>
    cases tid with
    | n t =>
      have hh := (hi.wN t).mp hwr
      refine ⟨.n t, rfl, ?_⟩
      cases hp : s.npc t <;> simp [hp, nHoldsW] at hh <;> simp only [stepV, stepN, stepN2, hp] <;>
        (try split) <;> simp
    | r =>
      have hh := hi.wR.mp hwr
      cases hp : s.rc <;> simp [hp, rHoldsW] at hh
      · refine ⟨.r, rfl, ?_⟩; simp only [stepV, stepR, hp]; split <;> simp
      · exact ⟨.rDial true, rfl, by simp [stepV, stepR, hp]⟩
      · exact ⟨.r, rfl, by simp [stepV, stepR, hp]⟩
      · exact ⟨.r, rfl, by simp [stepV, stepR, hp]⟩

theorem pending_can_getV {v : Variant} (s : St) (hi : WInv s) (hw : s.writer = none) (hr : s.readers = 0) (hp : s.pendW ≠ 0) :
    ∃ a, isProg a = true ∧ (stepV v s a).isSome = true := by
  have hpw := hi.pw
  by_cases hR : pwR s.rc = 0
  · obtain ⟨t, _, ht⟩ := cnt_pos pwN s.npc s.nN (by omega)
    refine ⟨.n t, rfl, ?_⟩
    cases hq : s.npc t <;> simp [hq, pwN] at ht <;> simp [stepV, stepN, stepN2, hq, hw, hr]
  · refine ⟨.r, rfl, ?_⟩
    cases hq : s.rc <;> simp [hq, pwR] at hR
    simp [stepV, stepR, hq, hw, hr]

/-- the steps of `Do` caller i other than its deadline -/
def isDo (i : Nat) : Act → Bool
  | .d j | .dWrite j _ | .dRecv j | .dCloseCase j => i == j
  | _ => false

theorem do_can_stepV {v : Variant} (hv : v.closeCase = true) (s : St) (hc : s.closeSig = true) (i : Nat)
    (h1 : s.dpc i ≠ .idle) (h2 : s.dpc i ≠ .ret) (h3 : s.dpc i = .wantR → s.writer = none ∧ s.pendW = 0) :
    ∃ a, isDo i a = true ∧ isProg a = true ∧ (stepV v s a).isSome = true := by
  cases hp : s.dpc i with
  | idle => exact absurd hp h1
  | ret => exact absurd hp h2
  | wantR => exact ⟨.d i, by simp [isDo], rfl, by simp [stepV, stepDo, hp, h3 hp]⟩
  | inR => refine ⟨.d i, by simp [isDo], rfl, ?_⟩; simp only [stepV, stepDo, hp]; split <;> simp
  | write => exact ⟨.dWrite i true, by simp [isDo], rfl, by simp [stepV, stepDo, hp]⟩
  | wait => exact ⟨.dCloseCase i, by simp [isDo], rfl, by simp [stepV, stepDo, hp, hc, hv]⟩
  | unlock => exact ⟨.d i, by simp [isDo], rfl, by simp [stepV, stepDo, hp]⟩

/-- after the close signal every holder of a read lock has an enabled step that is not a timer: a waiting `Do` has its
`case <-c.closeCh` -/
theorem reader_can_stepV {v : Variant} (hv : v.closeCase = true) (s : St) (hi : WInv s) (hc : s.closeSig = true)
    (hr : s.readers ≠ 0) : ∃ a, isProg a = true ∧ (stepV v s a).isSome = true := by
  have hrd := hi.rd
  by_cases hO : rdOnce s.once = 0
  · by_cases hR : rdR s.rc = 0
    · obtain ⟨i, _, ht⟩ := cnt_pos rdD s.dpc s.nD (by omega)
      have hp : s.dpc i ≠ .idle ∧ s.dpc i ≠ .ret ∧ s.dpc i ≠ .wantR := by cases hq : s.dpc i <;> simp [hq, rdD] at ht ⊢
      exact (do_can_stepV hv s hc i hp.1 hp.2.1 (fun e => absurd e hp.2.2)).imp fun _ => And.right
    · cases hq : s.rc <;> simp [hq, rdR] at hR
      · exact ⟨.r, rfl, by simp [stepV, stepR, hq]⟩
      · refine ⟨.r, rfl, ?_⟩; simp only [stepV, stepR, hq]; split <;> simp
      · exact ⟨.rWrite true, rfl, by simp [stepV, stepR, hq]⟩
      · refine ⟨.rCloseCase .fail, rfl, ?_⟩
        simp only [stepV, stepR, hq, hc, hv, Bool.and_self, ↓reduceIte]; split <;> simp
      · rename_i b res
        refine ⟨.r, rfl, ?_⟩
        cases b <;> cases res <;> simp [stepV, stepR, hq]
  · refine ⟨.body, rfl, ?_⟩
    cases ho : s.once with
    | free => simp [ho, rdOnce] at hO
    | done => simp [ho, rdOnce] at hO
    | held who b => cases b <;> simp [ho, rdOnce] at hO <;> simp [stepV, stepC, ho]

/-- THE LOCK DRAINS: after the close signal, whenever `RLock` is refused (a writer holds the lock or is pending),
some goroutine has an enabled step that waits neither for a timer nor for the peer -/
theorem lock_progressV {v : Variant} (hv : v.closeCase = true) (s : St) (hi : WInv s) (hc : s.closeSig = true)
    (hb : s.writer ≠ none ∨ s.pendW ≠ 0) : ∃ a, isProg a = true ∧ (stepV v s a).isSome = true := by
  by_cases hw : s.writer = none
  · by_cases hr : s.readers = 0
    · exact pending_can_getV s hi hw hr (hb.resolve_left (· hw))
    · exact reader_can_stepV hv s hi hc hr
  · exact writer_can_stepV s hi hw

def closersDone (s : St) : Prop := ∀ i, i < s.nC → s.cpc i = .ret

theorem body_progressV {v : Variant} (hv : v.closeCase = true) (s : St) (hi : WInv s) (hc : s.closeSig = true)
    (who : Who) (b : BPc) (ho : s.once = .held who b) : ∃ a, isProg a = true ∧ (stepV v s a).isSome = true := by
  cases b with
  | wantR =>
    by_cases hb : s.writer = none ∧ s.pendW = 0
    · exact ⟨.body, rfl, by simp [stepV, stepC, ho, hb]⟩
    · exact lock_progressV hv s hi hc (Classical.not_and_iff_not_or_not.mp hb)
  | _ => exact ⟨.body, rfl, by cases who <;> simp [stepV, stepC, ho]⟩

theorem close_progressV {v : Variant} (hv : v.closeCase = true) (s : St) (hi : WInv s) (hc : s.closeSig = true)
    (hn : ¬ closersDone s) : ∃ a, isProg a = true ∧ (stepV v s a).isSome = true := by
  simp only [closersDone, Classical.not_forall] at hn
  obtain ⟨i, hlt, hne⟩ := hn
  have hidle := hi.cS i hlt
  have hsig := hi.sig
  cases ho : s.once with
  | free => simp [ho, sigDone, hc] at hsig
  | held who b => exact body_progressV hv s hi hc who b ho
  | done =>
    cases hp : s.cpc i with
    | idle => exact absurd hp hidle
    | ret => exact absurd hp hne
    | body => have := (hi.cBody i).mp hp; simp [ho, holder] at this
    | once => exact ⟨.c i, rfl, by simp [stepV, stepC, hp, ho]⟩

def doersDone (s : St) : Prop := ∀ i, s.dpc i = .idle ∨ s.dpc i = .ret

theorem mu_zero (s : St) (hi : WInv s) (h : mu s = 0) : closersDone s ∧ doersDone s := by
  unfold mu at h
  constructor
  · intro i hlt
    have h1 := cnt_zero muC s.cpc s.nC (by omega) i hlt
    have h2 : muH s.once = 0 := by omega
    cases hp : s.cpc i with
    | idle => exact absurd hp (hi.cS i hlt)
    | once => simp [hp, muC] at h1
    | ret => rfl
    | body =>
      have := (hi.cBody i).mp hp
      cases ho : s.once with
      | held who b => cases b <;> simp [ho, muH] at h2
      | free => simp [ho, holder] at this
      | done => simp [ho, holder] at this
  · intro i
    by_cases hlt : i < s.nD
    · have h1 := cnt_zero muD s.dpc s.nD (by omega) i hlt
      cases hp : s.dpc i <;> simp [hp, muD] at h1 <;> simp
    · left; exact hi.dB i (by omega)

theorem prog_thread (a : Act) (h : isProg a = true) : isThread a = true ∧ fresh a = 0 := by
  cases a <;> simp_all [isProg, isThread, isEnv, fresh]

theorem close_promptV {v : Variant} (hv : v.closeCase = true) (acts : List Act) (s s' : St) (hi : WInv s)
    (hc : s.closeSig = true) (h : runV v s acts = some s') :
    s'.closeSig = true ∧
    mu s' + threadSteps acts ≤ mu s + freshBudget acts ∧
    (¬ closersDone s' → ∃ a, isProg a = true ∧ (stepV v s' a).isSome = true) ∧
    ((∀ a, isProg a = true → stepV v s' a = none) → closersDone s') ∧
    (mu s + freshBudget acts ≤ threadSteps acts → closersDone s' ∧ doersDone s') := by
  obtain ⟨c', m⟩ := mu_runV acts s s' hi hc h
  have hi' := inv_runV _ acts s s' hi h
  have stuck := close_progressV hv s' hi' c'
  refine ⟨c', m, stuck, fun hn => ?_, fun hle => mu_zero s' hi' (by omega)⟩
  apply Classical.byContradiction
  intro he
  obtain ⟨a, ha, hen⟩ := stuck he
  rw [hn a ha] at hen; cases hen

/-- CLOSE RETURNS PROMPTLY.  From any reachable state `s` in which the close signal is set (`close(c.closeCh)`, the first
statement of Close's body), along EVERY schedule `acts` — any interleaving of all goroutines with new `Do` / `Close` calls,
new loss notifications and the peer's answers — ending in `s'`:
(1) the signal stays set;
(2) budget: `mu s' + (goroutine steps in acts) ≤ mu s + (5 per new Do, 7 per new Close, 16 per new loss notification)`:
    no schedule contains more goroutine steps than that — nothing spins, a new call adds a constant;
(3) never stuck on a timer: unless every Close caller has returned in `s'`, some goroutine step is enabled that is neither
    a timer (request deadline, auth timeout, the 1 s sleep) nor an action of the environment;
(4) so a schedule that cannot be extended by such a step ends with every Close caller returned;
(5) and a schedule that has used up the budget ends with every Close caller AND every Do caller returned.
The one step in (3) that is not the client's own is the dialer's return (`rDial`), see `strandedD_blocks`. -/
theorem close_prompt (acts0 acts : List Act) (s s' : St) (h0 : run init acts0 = some s) (hc : s.closeSig = true)
    (h : run s acts = some s') :
    s'.closeSig = true ∧
    mu s' + threadSteps acts ≤ mu s + freshBudget acts ∧
    (¬ closersDone s' → ∃ a, isProg a = true ∧ enabled s' a) ∧
    ((∀ a, isProg a = true → step s' a = none) → closersDone s') ∧
    (mu s + freshBudget acts ≤ threadSteps acts → closersDone s' ∧ doersDone s') :=
  close_promptV (v := .code) rfl acts s s' (inv_reach acts0 s h0) hc h

/-- there IS a schedule to the end: from every state with the signal set, steps of the goroutines alone, none of them a
timer, lead to a state in which every Close caller has returned -/
theorem can_always_finishV {v : Variant} (hv : v.closeCase = true) (s : St) (hi : WInv s) (hc : s.closeSig = true) :
    ∃ acts s', (∀ a ∈ acts, isProg a = true) ∧ runV v s acts = some s' ∧ closersDone s' :=
  (isRunV v).can_finish (I := fun s => WInv s ∧ s.closeSig = true) mu
    (fun s ⟨hi, hc⟩ hd => by
      obtain ⟨a, ha, hen⟩ := close_progressV hv s hi hc hd
      obtain ⟨s1, h1⟩ := Option.isSome_iff_exists.mp hen
      obtain ⟨c1, m1⟩ := mu_stepV v s a s1 hi hc h1
      obtain ⟨ht, hf⟩ := prog_thread a ha
      simp only [ht, hf, ↓reduceIte] at m1
      exact ⟨a, s1, ha, h1, ⟨inv_stepV _ s a s1 hi h1, c1⟩, by omega⟩)
    s ⟨hi, hc⟩

theorem close_leads_to_returnV {v : Variant} (hv : v.closeCase = true) (s : St) (hi : WInv s) (hh : s.once ≠ .free) :
    ∃ acts s', (∀ a ∈ acts, isProg a = true) ∧ runV v s acts = some s' ∧ closersDone s' := by
  by_cases hc : s.closeSig = true
  · exact can_always_finishV hv s hi hc
  · have hsig := hi.sig
    cases ho : s.once with
    | free => exact absurd ho hh
    | done => simp [ho, sigDone] at hsig; exact absurd hsig hc
    | held who b =>
      cases b <;> (try (simp [ho, sigDone] at hsig; exact absurd hsig hc))
      have h1 : stepV v s .body = some { s with once := .held who .wantR, closeSig := true } := by
        simp [stepV, stepC, ho]
      obtain ⟨acts, s', hp, hr, hx⟩ := can_always_finishV hv _ (inv_stepV _ s .body _ hi h1) rfl
      exact ⟨.body :: acts, s', List.forall_mem_cons.mpr ⟨rfl, hp⟩, by rw [runV, h1]; exact hr, hx⟩

/-- from the moment somebody has won the Once of `Close` there is a timer-free schedule of the goroutines alone that ends
with every Close caller returned -/
theorem close_leads_to_return (acts0 : List Act) (s : St) (h0 : run init acts0 = some s) (hh : s.once ≠ .free) :
    ∃ acts s', (∀ a ∈ acts, isProg a = true) ∧ run s acts = some s' ∧ closersDone s' :=
  close_leads_to_returnV (v := .code) rfl s (inv_reach acts0 s h0) hh

theorem do_returns_after_closeV {v : Variant} (hv : v.closeCase = true) (s : St) (hi : WInv s) (hc : s.closeSig = true)
    (i : Nat) (h1 : s.dpc i ≠ .idle) (h2 : s.dpc i ≠ .ret) :
    (∃ a, isDo i a = true ∧ isProg a = true ∧ (stepV v s a).isSome = true) ∨
    (s.dpc i = .wantR ∧ (s.writer ≠ none ∨ s.pendW ≠ 0) ∧ ∃ a, isProg a = true ∧ (stepV v s a).isSome = true) := by
  by_cases hb : s.dpc i = .wantR → s.writer = none ∧ s.pendW = 0
  · exact .inl (do_can_stepV hv s hc i h1 h2 hb)
  · obtain ⟨hp, hn⟩ := Classical.not_imp.mp hb
    have hl := Classical.not_and_iff_not_or_not.mp hn
    exact .inr ⟨hp, hl, lock_progressV hv s hi hc hl⟩

/-- NO REQUEST CALL IS LEFT TO ITS DEADLINE after the close signal: in every reachable state with the signal set, a caller
inside `Do` has an enabled step of its own that is not its timeout — at the select of `recv` this is `case <-c.closeCh` — or it
is blocked in `RLock` behind a writer, and then some goroutine step that is not a timer is enabled (`lock_progressV`).  This is
enabledness in ONE state; that the call does return is `close_prompt` (5), for the schedules that use the budget up -/
theorem do_returns_after_close (acts0 : List Act) (s : St) (h0 : run init acts0 = some s) (hc : s.closeSig = true)
    (i : Nat) (h1 : s.dpc i ≠ .idle) (h2 : s.dpc i ≠ .ret) :
    (∃ a, isDo i a = true ∧ isProg a = true ∧ enabled s a) ∨
    (s.dpc i = .wantR ∧ (s.writer ≠ none ∨ s.pendW ≠ 0) ∧ ∃ a, isProg a = true ∧ enabled s a) :=
  do_returns_after_closeV (v := .code) rfl s (inv_reach acts0 s h0) hc i h1 h2

/-- MUTUAL EXCLUSION of the RWMutex as modelled: while a writer holds the lock nobody is inside a read-locked section
(no `Do` between RLock and RUnlock, not the body of Close, not the retry goroutine), the holder is exactly the goroutine
whose program counter is inside a write-locked section, and there is at most one such goroutine -/
theorem mutex_exclusive (s : St) (hi : WInv s) :
    (s.writer ≠ none → s.readers = 0 ∧ (∀ i, rdD (s.dpc i) = 0) ∧ rdOnce s.once = 0 ∧ rdR s.rc = 0) ∧
    (∀ t, s.writer = some (.n t) ↔ nHoldsW (s.npc t) = true) ∧ (s.writer = some .r ↔ rHoldsW s.rc = true) ∧
    (∀ t u, nHoldsW (s.npc t) = true → nHoldsW (s.npc u) = true → t = u) ∧
    (∀ t, nHoldsW (s.npc t) = true → rHoldsW s.rc = false) := by
  refine ⟨fun hw => ?_, hi.wN, hi.wR, fun t u ht hu => ?_, fun t ht => ?_⟩
  · have h0 := hi.excl hw
    have hrd := fun i => two_readers s hi i (i + 1) (by omega)
    have := hrd 0
    exact ⟨h0, fun i => by have := hrd i; omega, by omega, by omega⟩
  · have h1 := (hi.wN t).mpr ht
    have h2 := (hi.wN u).mpr hu
    rw [h1] at h2; cases h2; rfl
  · have h1 := (hi.wN t).mpr ht
    cases hr : rHoldsW s.rc with
    | false => rfl
    | true => have h2 := hi.wR.mpr hr; rw [h1] at h2; cases h2

/-- ONE RETRY GOROUTINE: a retry goroutine is never started while another one runs; at most one notifier is between
winning the guard and its final Unlock; a running retry goroutine belongs to that notifier, which waits for it -/
theorem one_retry_goroutine (acts : List Act) (s : St) (h : run init acts = some s) :
    s.spawnClash = 0 ∧ (∀ t, s.npc t = .spawn → s.rc = .none) ∧
    (∀ t u, owns (s.npc t) = true → owns (s.npc u) = true → t = u) ∧
    (s.rc ≠ .none → s.npc s.own = .waitRC ∧ s.rcOwner = s.own) := by
  have hi := inv_reach acts s h
  refine ⟨hi.clash, fun t ht => ?_, fun t u ht hu => (hi.ownU t ht).trans (hi.ownU u hu).symm,
    fun hr => ⟨hi.rcN hr, hi.rcO hr⟩⟩
  apply Classical.byContradiction
  intro hr
  have h1 := hi.ownU t (by simp [ht, owns])
  have h2 := hi.rcN hr
  rw [← h1, ht] at h2; cases h2

/-- `recovering` mirrors `doReconnectting`: they differ only while the owner of the recovery is between its two stores,
which it makes under the write lock — with the lock free of a writer they agree -/
theorem flag_agrees (acts : List Act) (s : St) (h : run init acts = some s) :
    (s.reconn = s.recovering ∨ s.npc s.own = .setAt ∨ s.npc s.own = .clrAt) ∧
    (s.writer = none → s.reconn = s.recovering) := by
  have hi := inv_reach acts s h
  have h1 := hi.fDo
  have h2 := hi.fAt
  have h3 := hi.wN s.own
  constructor
  · cases hp : s.npc s.own <;> simp_all [ownsDo, ownsAt]
  · intro hw
    cases hp : s.npc s.own <;> simp_all [ownsDo, ownsAt, nHoldsW]

/-- once the signal is set no goroutine ENTERS the dialer: `dial` tests `closed()` under the write lock -/
theorem no_dial_entered_after_signal (s s' : St) (a : Act) (hc : s.closeSig = true) (hs : step s a = some s')
    (hd : s'.rc = .dDialing) : s.rc = .dDialing := by
  cases a <;> simp only [step, stepV, stepEnv, stepDo, stepN, stepN2, stepR, stepC] at hs <;> (repeat' split at hs) <;>
    cases hs <;> first | exact hd | cases hd | contradiction

/-! ### negative results: Close needs the `closeCh` case (a, b), a `Do` the fast path as well (b′) -/

section negative
attribute [local grind =] upd_app
attribute [local grind] rdD Variant.closeCase

/-- What the four stranded situations below have in common.  While the write lock is out of a notifier's reach (a reader is
inside, or the retry goroutine holds it) and no retry goroutine is about to be started or has just finished, a notifier's step
moves that notifier only, and the one thing it can do to the lock is queue in `Lock()` (`k = 1`, at `wantW`). -/
theorem stepN_queues {v : Variant} {s s' : St} {t : Nat} (hi : WInv s)
    (hl : s.writer = none ∧ s.readers ≠ 0 ∨ s.writer = some .r) (hsp : s.recovering = false ∨ s.rc ≠ .none)
    (hfin : s.rc ≠ .fin) (hs : stepN v s t = some s') :
    ∃ p k, s' = { s with npc := upd s.npc t p, pendW := s.pendW + k } := by
  have e2 := hi.wN t; have e3 := hi.ownU t; have e4 := hi.fAt; have e5 := hi.rcN
  simp only [stepN, stepN2] at hs
  (repeat' split at hs) <;> cases hs <;> first | exact ⟨_, 0, rfl⟩ | exact ⟨_, 1, rfl⟩ | (exfalso; grind [nHoldsW, owns, ownsAt])

/-- a `Do` waits for its answer (read lock held); conn 0 is lost and notifier 0 passes the `closed()` test and the fast
path and queues in `Lock()`; then `Close`: Once taken, `close(c.closeCh)` — its next statement is `c.RLock()` -/
def demoA : List Act :=
  [.doCall, .d 0, .d 0, .dWrite 0 true, .lose 0, .n 0, .n 0, .n 0, .closeCall, .c 0, .body]

abbrev strandedA (s : St) : Prop :=
  s.dpc 0 = .wait ∧ s.answered 0 = false ∧ s.failed 0 = false ∧ s.readers = 1 ∧ 1 ≤ s.pendW ∧
  s.once = .held (.x 0) .wantR ∧ s.writer = none ∧ s.rc = .none ∧ s.recovering = false

/-- no request deadline fires and the peer does not answer -/
def quietA : Act → Bool
  | .dTimeout _ | .deliver _ => false
  | _ => true

theorem strandedA_step (s : St) (a : Act) (s' : St) (hi : WInv s) (h : strandedA s) (hq : quietA a = true)
    (hs : stepV .noCloseCase s a = some s') : strandedA s' := by
  obtain ⟨a1, a2, a3, a4, a5, a6, a7, a8, a9⟩ := h
  have key : ∀ i, i ≠ 0 → rdD (s.dpc i) = 0 := fun i hne => by
    have := two_readers s hi 0 i (Ne.symm hne)
    have : rdD (s.dpc 0) = 1 := by rw [a1]; rfl
    omega
  have e1 := hi.dB
  cases a
  case n t =>
    obtain ⟨p, k, rfl⟩ := stepN_queues hi (.inl ⟨a7, by omega⟩) (.inl a9) (by simp [a8]) hs
    exact ⟨a1, a2, a3, a4, Nat.le_add_right_of_le a5, a6, a7, a8, a9⟩
  all_goals
    simp only [stepV, stepEnv, stepDo, stepR, stepC, a4, a6, a7, a8] at hs <;> (repeat' split at hs) <;> cases hs <;>
    grind [quietA]

theorem strandedA_blocks (s : St) (h : WInv s ∧ strandedA s) :
    s.closeSig = true ∧ s.once = .held (.x 0) .wantR ∧ s.cpc 0 = .body ∧ s.dpc 0 = .wait ∧
    stepV .noCloseCase s .body = none ∧ stepV .noCloseCase s (.c 0) = none := by
  obtain ⟨hi, a1, -, -, -, a5, a6, -⟩ := h
  have hb : s.cpc 0 = .body := (hi.cBody 0).mpr (by simp [a6, holder])
  refine ⟨by rw [hi.sig, a6]; rfl, a6, hb, a1, ?_, ?_⟩
  · simp only [stepV, stepC, a6]; rw [if_neg (by omega)]
  · simp [stepV, stepC, hb]

/-- (a) WITHOUT `case <-c.closeCh` IN `recv` (the tree before the repair of D24): one `Do` waits for an answer, its conn
is lost, a notifier queues in `Lock()` behind the read lock of that `Do`, then the user calls `Close`.  Close sets the
signal — and its `c.RLock()` is refused in this state and in every state of every continuation in which no request
deadline fires and the peer does not answer: the pending writer blocks Close, the waiting `Do` blocks the writer, and
nothing but its deadline wakes the `Do`.  Close waits for a request timeout. -/
theorem no_close_case_blocks_close :
    ∃ s, runV .noCloseCase init demoA = some s ∧
      s.closeSig = true ∧ s.once = .held (.x 0) .wantR ∧ s.cpc 0 = .body ∧ s.dpc 0 = .wait ∧
      ∀ acts s', (∀ a ∈ acts, quietA a = true) → runV .noCloseCase s acts = some s' →
        s'.closeSig = true ∧ s'.once = .held (.x 0) .wantR ∧ s'.cpc 0 = .body ∧ s'.dpc 0 = .wait ∧
        stepV .noCloseCase s' .body = none ∧ stepV .noCloseCase s' (.c 0) = none := by
  obtain ⟨s, hr, h, hall⟩ := (isRunV .noCloseCase).strands (inv_stepV _) strandedA_step init demoA inv_init (by decide)
  obtain ⟨k1, k2, k3, k4, -⟩ := strandedA_blocks s h
  exact ⟨s, hr, k1, k2, k3, k4, fun acts s' hq hrun => strandedA_blocks s' (hall acts s' hq hrun)⟩

/-- the same schedule on the code: the waiting `Do` takes its `case <-c.closeCh` and releases the read lock, the notifier
gets the write lock and starts the recovery, and as soon as it unlocks Close gets its read lock and returns -/
example : (run init (demoA ++ [.dCloseCase 0, .d 0, .n 0, .n 0, .n 0, .n 0, .n 0, .body, .body, .body, .body, .body])).map
    (fun s => (s.once, s.cpc 0, s.dpc 0)) = some (.done, .ret, .ret) := by decide

/-- conn 0 is lost; notifier 0 wins the guard, sets both flags and starts the retry goroutine -/
def demoRecoveryStart : List Act := [.lose 0, .n 0, .n 0, .n 0, .n 0, .n 0, .n 0, .n 0, .n 0, .n 0]
/-- the retry goroutine: closes the old conn, fails the waiters, dials (ok), and makes the auth request, which waits
for its answer holding the read lock -/
def demoAuthWaits : List Act :=
  demoRecoveryStart ++ [.r, .rChkMax false, .r, .r, .r, .r, .r, .r, .r, .rDial true, .r, .rAuthQ true, .r, .r, .rWrite true]
/-- a second notifier of the same loss: without the fast path it queues in `Lock()`; then `Close` up to its signal -/
def demoB : List Act := demoAuthWaits ++ [.lose 0, .n 1, .n 1, .n 1, .closeCall, .c 0, .body]

abbrev strandedB (s : St) : Prop :=
  s.rc = .aWait false ∧ s.authAns = false ∧ s.readers = 1 ∧ 1 ≤ s.pendW ∧ s.once = .held (.x 0) .wantR ∧ s.writer = none

/-- the auth timeout does not fire and the peer does not answer the auth request -/
def quietB : Act → Bool
  | .rAuthTimeout | .authDeliver => false
  | _ => true

theorem no_do_reader (s : St) (hi : WInv s) (h1 : s.readers = 1) (h2 : rdR s.rc = 1) (i : Nat) : rdD (s.dpc i) = 0 := by
  have := two_readers s hi i (i + 1) (by omega); omega

theorem strandedB_step (s : St) (a : Act) (s' : St) (hi : WInv s) (h : strandedB s) (hq : quietB a = true)
    (hs : stepV .neither s a = some s') : strandedB s' := by
  obtain ⟨a1, a2, a3, a4, a5, a6⟩ := h
  have key := no_do_reader s hi a3 (by rw [a1]; rfl)
  cases a
  case n t =>
    obtain ⟨p, k, rfl⟩ := stepN_queues hi (.inl ⟨a6, by omega⟩) (.inr (by simp [a1])) (by simp [a1]) hs
    exact ⟨a1, a2, a3, Nat.le_add_right_of_le a4, a5, a6⟩
  all_goals
    simp only [stepV, stepEnv, stepDo, stepR, stepC, a1, a5, a6] at hs <;> (repeat' split at hs) <;> cases hs <;>
    grind [quietB]

theorem strandedB_blocks (s : St) (h : WInv s ∧ strandedB s) :
    s.closeSig = true ∧ s.once = .held (.x 0) .wantR ∧ s.cpc 0 = .body ∧ s.rc = .aWait false ∧
    stepV .neither s .body = none ∧ (∀ i, s.dpc i = .wantR → stepV .neither s (.d i) = none) := by
  obtain ⟨hi, a1, -, -, a4, a5, -⟩ := h
  refine ⟨by rw [hi.sig, a5]; rfl, a5, (hi.cBody 0).mpr (by simp [a5, holder]), a1, ?_, fun i hp => ?_⟩
  · simp only [stepV, stepC, a5]; rw [if_neg (by omega)]
  · simp only [stepV, stepDo, hp]; rw [if_neg (by omega)]

/-- (b) WITHOUT THE ATOMIC `recovering` TEST IN `reconnecting` (the tree in which D20 was found: neither guard): a recovery
is running, its auth request waits for the answer (the retry goroutine holds the read lock inside `Do`), a second notifier
of the same loss queues in `Lock()`, then the user calls `Close`.  Close sets the signal — and its `c.RLock()`, and the
`RLock` of every `Do`, is refused in this state and in every state of every continuation in which the auth timeout does
not fire and the peer does not answer the auth request.  Close waits for the auth deadline. -/
theorem no_fast_path_blocks_close :
    ∃ s, runV .neither init demoB = some s ∧
      s.closeSig = true ∧ s.once = .held (.x 0) .wantR ∧ s.cpc 0 = .body ∧ s.rc = .aWait false ∧
      ∀ acts s', (∀ a ∈ acts, quietB a = true) → runV .neither s acts = some s' →
        s'.closeSig = true ∧ s'.once = .held (.x 0) .wantR ∧ s'.cpc 0 = .body ∧ s'.rc = .aWait false ∧
        stepV .neither s' .body = none ∧ (∀ i, s'.dpc i = .wantR → stepV .neither s' (.d i) = none) := by
  obtain ⟨s, hr, h, hall⟩ := (isRunV .neither).strands (inv_stepV _) strandedB_step init demoB inv_init (by decide)
  obtain ⟨k1, k2, k3, k4, -⟩ := strandedB_blocks s h
  exact ⟨s, hr, k1, k2, k3, k4, fun acts s' hq hrun => strandedB_blocks s' (hall acts s' hq hrun)⟩

/-- the same schedule on the code: the second notifier reads `recovering = 1` and returns without touching the lock
(its third step does not exist); Close shares the read lock with the waiting auth request and returns while that
request is still waiting -/
example : (run init (demoAuthWaits ++ [.lose 0, .n 1, .n 1, .closeCall, .c 0, .body, .body, .body, .body, .body, .body])).map
    (fun s => (s.once, s.cpc 0, s.npc 1, s.rc)) = some (.done, .ret, .done, .aWait false) := by decide

/-- with the repair of D24 but not that of D20 (variant `noFastPath`) the schedule of (b) does NOT block Close: the auth
request has the `closeCh` case, wakes up on Close's signal and releases the read lock; the second notifier gets the
write lock, finds the recovery running, unlocks; Close gets its read lock.  No schedule does: `noFastPath` has the
`closeCh` case, which is all `close_promptV` asks for.  What the missing fast path costs there is stated next. -/
example : (runV .noFastPath init (demoB ++ [.rCloseCase .fail, .r, .n 1, .n 1, .n 1, .body, .body, .body, .body, .body])).map
    (fun s => (s.once, s.cpc 0, s.npc 1)) = some (.done, .ret, .done) := by decide

/-- the second notifier queues in `Lock()`, then a new `Do` call arrives; nobody calls Close -/
def demoC : List Act := demoAuthWaits ++ [.lose 0, .n 1, .n 1, .n 1, .doCall]

abbrev strandedC (s : St) : Prop :=
  s.rc = .aWait false ∧ s.authAns = false ∧ s.readers = 1 ∧ 1 ≤ s.pendW ∧
  s.once = .free ∧ s.writer = none ∧ s.nC = 0 ∧ s.closeSig = false ∧ s.dpc 0 = .wantR

/-- the auth timeout does not fire, the peer does not answer the auth request, nobody calls Close -/
def quietC : Act → Bool
  | .rAuthTimeout | .authDeliver | .closeCall => false
  | _ => true

theorem strandedC_step (s : St) (a : Act) (s' : St) (hi : WInv s) (h : strandedC s) (hq : quietC a = true)
    (hs : stepV .noFastPath s a = some s') : strandedC s' := by
  obtain ⟨a1, a2, a3, a4, a5, a6, a7, a8, a9⟩ := h
  have key := no_do_reader s hi a3 (by rw [a1]; rfl)
  have e5 := hi.cB
  cases a
  case n t =>
    obtain ⟨p, k, rfl⟩ := stepN_queues hi (.inl ⟨a6, by omega⟩) (.inr (by simp [a1])) (by simp [a1]) hs
    exact ⟨a1, a2, a3, Nat.le_add_right_of_le a4, a5, a6, a7, a8, a9⟩
  all_goals
    simp only [stepV, stepEnv, stepDo, stepR, stepC, a1, a5, a6] at hs <;> (repeat' split at hs) <;> cases hs <;>
    grind [quietC]

theorem strandedC_blocks (s : St) (hs : strandedC s) :
    s.dpc 0 = .wantR ∧ s.rc = .aWait false ∧ (∀ i, s.dpc i = .wantR → stepV .noFastPath s (.d i) = none) := by
  obtain ⟨a1, -, -, a4, -, -, -, -, a9⟩ := hs
  refine ⟨a9, a1, fun i hp => ?_⟩
  simp only [stepV, stepDo, hp]; rw [if_neg (by omega)]

/-- (b′) what the missing fast path costs when only D24 is repaired (variant `noFastPath`): with a recovery running and its
auth request waiting, a second notifier of the same loss queues in `Lock()` — and from then on the `RLock` of EVERY
`Do` call is refused, in every state of every continuation in which the auth timeout does not fire, the peer does not
answer the auth request and nobody calls Close: every request is delayed by up to the auth timeout. -/
theorem no_fast_path_blocks_do_partial :
    ∃ s, runV .noFastPath init demoC = some s ∧ s.dpc 0 = .wantR ∧ s.rc = .aWait false ∧
      ∀ acts s', (∀ a ∈ acts, quietC a = true) → runV .noFastPath s acts = some s' →
        s'.dpc 0 = .wantR ∧ s'.rc = .aWait false ∧ (∀ i, s'.dpc i = .wantR → stepV .noFastPath s' (.d i) = none) := by
  obtain ⟨s, hr, ⟨-, hs⟩, hall⟩ := (isRunV .noFastPath).strands (inv_stepV _) strandedC_step init demoC inv_init (by decide)
  exact ⟨s, hr, (strandedC_blocks s hs).1, (strandedC_blocks s hs).2.1,
    fun acts s' hq hrun => strandedC_blocks s' (hall acts s' hq hrun).2⟩

/-- the same schedule on the code: the second notifier returns on the fast path and the new `Do` gets its read lock at
once, next to the waiting auth request -/
example : (run init (demoAuthWaits ++ [.lose 0, .n 1, .n 1, .doCall, .d 0])).map
    (fun s => (s.npc 1, s.dpc 0, s.readers, s.pendW)) = some (.done, .inR, 2, 0) := by decide

/-! ### what Close still waits for: a dial in progress -/

/-- the recovery is inside the dialer (write lock held) when the user calls `Close` -/
def demoDial : List Act :=
  demoRecoveryStart ++ [.r, .rChkMax false, .r, .r, .r, .r, .r, .r, .r] ++ [.closeCall, .c 0, .body]

abbrev strandedD (s : St) : Prop := s.rc = .dDialing ∧ s.writer = some .r ∧ s.once = .held (.x 0) .wantR

def notDialReturn : Act → Bool
  | .rDial _ => false
  | _ => true

theorem strandedD_step (s : St) (a : Act) (s' : St) (hi : WInv s) (h : strandedD s) (hq : notDialReturn a = true)
    (hs : step s a = some s') : strandedD s' := by
  obtain ⟨a1, a2, a3⟩ := h
  cases a
  case n t =>
    obtain ⟨p, k, rfl⟩ := stepN_queues hi (.inr a2) (.inr (by simp [a1])) (by simp [a1]) hs
    exact ⟨a1, a2, a3⟩
  all_goals
    simp only [step, stepV, stepEnv, stepDo, stepR, stepC, a1, a2, a3] at hs <;> (repeat' split at hs) <;> cases hs <;>
    grind [notDialReturn]

/-- FALSE OF THE CODE: "Close never waits for anything but its own goroutines".  `dial` holds the WRITE lock across the
network dial (`c.conn, err = dialer(ctx, ..)` between `c.Lock()` and the deferred `c.Unlock()`).  If the user calls
`Close` while a reconnect attempt is inside the dialer (`demoDial`), Close sets the signal and then its `c.RLock()` is refused
in such a state (this lemma), and the state stays such (`strandedD_step`) along every continuation until the dialer returns — i.e.
for up to `DialOptions.Timeout` when the peer is unreachable; the two are put together in `C14.close_waits_for_dial_in_progress`.  (This is the only such wait:
`close_prompt` (3) names an enabled step in every state, and it is the dial's return only while a goroutine is inside the
dialer — `dial_return_only_in_dialer` — which no goroutine enters after the signal — `no_dial_entered_after_signal`.) -/
theorem strandedD_blocks (s : St) (h : WInv s ∧ strandedD s) :
    s.closeSig = true ∧ s.once = .held (.x 0) .wantR ∧ s.rc = .dDialing ∧ step s .body = none := by
  obtain ⟨hi, a1, a2, a3⟩ := h
  exact ⟨by rw [hi.sig, a3]; rfl, a3, a1, by simp [step, stepV, stepC, a3, a2]⟩

theorem dial_return_only_in_dialer (s : St) (ok : Bool) (h : enabled s (.rDial ok)) : s.rc = .dDialing := by
  simp only [enabled, step, stepV, stepR] at h
  split at h <;> simp_all

/-- the schedule goes on as soon as the dialer returns: the conn it installs AFTER the signal (generation 1) is the one
Close then finds in `c.conn` and closes; Close returns -/
example : (run init (demoDial ++ [.rDial true, .r, .body, .body, .body, .body, .body])).map
    (fun s => (s.once, s.cpc 0, s.cur)) = some (.done, .ret, some 1) := by decide
/-- … so "dial never installs a conn once the signal is set" is false; what holds is `WInv.late` and `WInv.noDial` -/
theorem dial_in_progress_installs_after_signal :
    (run init (demoDial ++ [.rDial true])).map (fun s => (s.closeSig, s.cur, s.lateInstalls)) = some (true, some 1, 0) := by
  decide
/-- the retry goroutine then finds the client closed at its auth request's select, or at the loop head, and leaves -/
example : (run init (demoDial ++ [.rDial true, .r, .body, .body, .body, .body, .body,
      .rAuthQ true, .r, .r, .rWrite true, .rCloseCase .fail, .r, .rSleepDone, .r, .n 0, .n 0, .n 0, .n 0, .n 0, .n 0])).map
    (fun s => (s.rc, s.npc 0, s.recovering)) = some (.none, .done, false) := by decide

end negative

/-! ### non-vacuity: concrete schedules of the code -/

/-- two `Do` calls wait for their answers, the conn is lost and a notifier queues in `Lock()`, Close sets its signal:
the situation of D24 -/
def demoTwo : List Act :=
  [.doCall, .doCall, .d 0, .d 0, .dWrite 0 true, .d 1, .d 1, .dWrite 1 true, .lose 0, .n 0, .n 0, .n 0,
   .closeCall, .c 0, .body]

example : (run init demoTwo).map (fun s => (s.dpc 0, s.dpc 1, s.npc 0)) = some (.wait, .wait, .pend1 0) := by decide
example : (run init demoTwo).map (fun s => (s.readers, s.pendW, s.closeSig)) = some (2, 1, true) := by decide
/-- Close's RLock and a new Do's RLock are refused (a pending writer), the notifier's Lock too (two readers) … -/
example : (run init (demoTwo ++ [.doCall])).map
    (fun s => ((step s .body).isSome, (step s (.d 2)).isSome, (step s (.n 0)).isSome)) = some (false, false, false) := by
  decide
/-- … but both waiting calls have their closeCh case: they return, the notifier gets the lock, starts the recovery,
unlocks; Close and the new Do get their read locks; Close returns; the retry goroutine finds the client closed -/
example : (run init (demoTwo ++ [.doCall, .dCloseCase 0, .dCloseCase 1, .d 0, .d 1, .n 0, .n 0, .n 0, .n 0, .n 0,
      .body, .d 2, .body, .body, .body, .body])).map
    (fun s => (s.once, s.cpc 0, s.dpc 0, s.dpc 1)) = some (.done, .ret, .ret, .ret) := by decide
example : (run init (demoTwo ++ [.doCall, .dCloseCase 0, .dCloseCase 1, .d 0, .d 1, .n 0, .n 0, .n 0, .n 0, .n 0,
      .body, .d 2, .body, .body, .body, .body, .n 0, .r, .d 2, .dWrite 2 true, .dCloseCase 2, .d 2,
      .n 0, .n 0, .n 0, .n 0, .n 0, .n 0])).map
    (fun s => (s.rc, s.npc 0, s.dpc 2, s.readers)) = some (.none, .done, .ret, 0) := by decide

/-- a full recovery: loss, guard, flags, retry goroutine, old conn closed, waiters failed, dial, auth answered,
after-reconnect callback, the notifier clears the flags -/
def demoRecovery : List Act :=
  demoAuthWaits ++ [.authDeliver, .rRecv .ok, .r, .r, .r, .n 0, .n 0, .n 0, .n 0, .n 0, .n 0]

example : (run init demoRecovery).map (fun s => (s.npc 0, s.rc, s.cur)) = some (.done, .none, some 1) := by decide
example : (run init demoRecovery).map (fun s => (s.reconn, s.recovering, s.writer)) = some (false, false, none) := by
  decide
example : (run init demoRecovery).map (fun s => (s.readers, s.pendW, s.spawnClash)) = some (0, 0, 0) := by decide
/-- a request written to the old conn after the recovery has started is failed by it (errConnClosed), not left to its
deadline -/
example : (run init (demoRecoveryStart ++ [.doCall, .d 0, .d 0, .dWrite 0 true,
      .r, .rChkMax false, .r, .r, .r, .r, .dRecv 0, .d 0])).map
    (fun s => (s.dpc 0, s.failed 0, s.rc)) = some (.ret, true, .dWant) := by decide
/-- OBSERVATION (not about Close): a request in flight when the conn is lost is NOT failed early.  `reconnecting` needs
the write lock before anything else happens, the waiting `Do` holds the read lock, and the waiters are failed only by
`reconnect`, i.e. after that lock: with no Close and a silent peer the only enabled steps are the request's deadline
(and the notifier stays pending, so every new `Do` waits too).  The recovery starts when the last request in flight has
timed out. -/
example : (run init [.doCall, .d 0, .d 0, .dWrite 0 true, .lose 0, .n 0, .n 0, .n 0, .doCall]).map
    (fun s => ((step s (.n 0)).isSome, (step s (.dRecv 0)).isSome || (step s (.dCloseCase 0)).isSome || (step s (.d 1)).isSome,
      (step s (.dTimeout 0)).isSome)) = some (false, false, true) := by decide
/-- a rejected session: the resume request is answered "unauthenticated", the goroutine makes the auth request -/
example : (run init (demoAuthWaits ++ [.authDeliver, .rRecv .again, .r, .r, .r, .rWrite true])).map
    (fun s => (s.rc, s.authAns, s.readers)) = some (.aWait true, false, 1) := by decide

/-- Close returns with a request in flight (no loss, no writer): it shares the read lock with the waiting `Do` -/
example : (run init [.doCall, .d 0, .d 0, .dWrite 0 true, .closeCall, .c 0, .body, .body, .body, .body, .body, .body]).map
    (fun s => (s.once, s.cpc 0, s.dpc 0)) = some (.done, .ret, .wait) := by decide
/-- … and the request then returns through its closeCh case, without its deadline -/
example : (run init [.doCall, .d 0, .d 0, .dWrite 0 true, .closeCall, .c 0, .body, .body, .body, .body, .body, .body,
      .dCloseCase 0, .d 0]).map (fun s => (s.dpc 0, s.readers, s.doReturns)) = some (.ret, 0, 1) := by decide

/-- Close in the middle of failing reconnect attempts: the dial failed (`c.conn = nil`), the retry goroutine sleeps its
second; Close returns without waiting for the sleep; a second Close call returns at the Once -/
example : (run init (demoRecoveryStart ++ [.r, .rChkMax false, .r, .r, .r, .r, .r, .r, .r, .rDial false, .r,
      .closeCall, .c 0, .body, .body, .body, .body, .body, .body, .closeCall, .c 1])).map
    (fun s => (s.once, s.cpc 0, s.cpc 1, s.rc)) = some (.done, .ret, .ret, .sleep) := by decide
/-- … and a `Do` made while `c.conn` is nil returns at once -/
example : (run init (demoRecoveryStart ++ [.r, .rChkMax false, .r, .r, .r, .r, .r, .r, .r, .rDial false, .r,
      .doCall, .d 0, .d 0, .d 0])).map (fun s => (s.dpc 0, s.cur, s.readers)) = some (.ret, none, 0) := by decide

/-- hit-max: the retry goroutine closes the client itself; a user's Close call waits at the Once meanwhile -/
example : (run init (demoRecoveryStart ++ [.r, .rChkMax true, .r, .closeCall, .body, .body])).map
    (fun s => (s.once, (step s (.c 0)).isSome, s.rc)) = some (.held .r .inR, false, .hmBody) := by decide
example : (run init (demoRecoveryStart ++ [.r, .rChkMax true, .r, .closeCall, .body, .body, .body, .body, .body, .body,
      .c 0, .n 0, .n 0, .n 0, .n 0, .n 0, .n 0])).map
    (fun s => (s.once, s.cpc 0, s.rc, s.npc 0)) = some (.done, .ret, .none, .done) := by decide

/-- the theorems apply: in the state of `demoTwo` the signal is set, so (`close_prompt`) a step that is not a timer is
enabled — here the two closeCh cases -/
example : (run init demoTwo).map (fun s => ((step s (.dCloseCase 0)).isSome, (step s (.dCloseCase 1)).isSome, mu s)) =
    some (true, true, 22) := by decide

end OAP.LockWait
