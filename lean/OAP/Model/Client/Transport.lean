/-
C12: the TCP write path.  Any number of callers enqueue packed frames with a
non-blocking send (error when the queue is full); one writer goroutine dequeues and writes each
frame whole, with partial socket writes re-buffered in front of the next write.
-/
import OAP.Base
import OAP.LTS
namespace OAP.Transport

structure St where
  queue : List Bytes          -- writeCh, oldest first (the handshake is the first element put in)
  pending : Bytes             -- remainder of a partial socket write (the writer's ring buffer)
  sock : Bytes                -- everything the socket has accepted so far
  accepted : List Bytes       -- ghost: frames accepted by enqueue, in order
  rejected : Nat              -- "write queue full" errors returned

inductive Act
  | enqueue (f : Bytes)       -- some goroutine's Write: Pack already done (thread-local), now the send
  | write (n : Nat)           -- writer: take next frame, prepend the remainder, socket accepts n bytes of it
  | flush (n : Nat)           -- writer's ticker: socket accepts n bytes of the remainder

def step (cap : Nat) (s : St) : Act → Option St
  | .enqueue f =>
      if s.queue.length < cap then some { s with queue := s.queue ++ [f], accepted := s.accepted ++ [f] }
      else some { s with rejected := s.rejected + 1 }          -- never blocks
  | .write n =>
      match s.queue with
      | [] => none
      | f :: q =>
        let b := s.pending ++ f
        some { s with queue := q, sock := s.sock ++ b.take n, pending := b.drop n }
  | .flush n =>
      some { s with sock := s.sock ++ s.pending.take n, pending := s.pending.drop n }

def init (handshake : Bytes) : St :=
  { queue := [handshake], pending := [], sock := [], accepted := [handshake], rejected := 0 }

def run (cap : Nat) : St → List Act → Option St
  | s, [] => some s
  | s, a :: as => (step cap s a).bind (fun s' => run cap s' as)

theorem isRun (cap : Nat) : LTS.IsRun (step cap) (run cap) := ⟨fun _ => rfl, fun _ _ _ => rfl⟩

def TInv (s : St) : Prop := s.sock ++ s.pending ++ s.queue.flatten = s.accepted.flatten

theorem inv_step (cap : Nat) (s : St) (a : Act) (s' : St) (h : TInv s) (hs : step cap s a = some s') : TInv s' := by
  unfold TInv at *
  -- the branches of `step` in order: enqueued, rejected, write, flush
  revert hs
  fun_cases step cap s a <;> rintro ⟨⟩
  · simp [← h, List.append_assoc]
  · exact h
  · next n f q hq b =>
    rw [← h, hq]
    simp only [List.flatten_cons, List.append_assoc]
    rw [← List.append_assoc (b.take n), List.take_append_drop]
    simp [b, List.append_assoc]
  · next n =>
    rw [← h]
    simp only [List.append_assoc]
    rw [← List.append_assoc (s.pending.take n), List.take_append_drop]

theorem accepted_step (cap : Nat) (s : St) (a : Act) (s' : St) (hs : step cap s a = some s') :
    ∃ x, s'.accepted = s.accepted ++ x := by
  revert hs
  fun_cases step cap s a <;> rintro ⟨⟩
  · exact ⟨[_], rfl⟩
  all_goals exact ⟨[], (List.append_nil _).symm⟩

/-- C12: for any number of concurrent writers and any pattern of partial socket
    writes, the bytes on the socket are always a prefix of handshake ++ accepted frames in acceptance
    order — nothing interleaved, torn, re-ordered or repeated; and once queue and remainder are empty
    they are exactly that. -/
theorem stream_shape (cap : Nat) (hs : Bytes) (acts : List Act) (s : St)
    (h : run cap (init hs) acts = some s) :
    s.sock <+: s.accepted.flatten ∧ (∃ rest, s.accepted = hs :: rest) ∧
    (s.queue = [] → s.pending = [] → s.sock = s.accepted.flatten) := by
  have i : TInv s := (isRun cap).inv (inv_step cap) acts (init hs) s (by simp [TInv, init]) h
  unfold TInv at i
  refine ⟨⟨s.pending ++ s.queue.flatten, by rw [← i, List.append_assoc]⟩, ?_, ?_⟩
  · -- the handshake is, and stays, the first accepted frame
    refine (isRun cap).inv (I := fun s => ∃ r, s.accepted = hs :: r) ?_ acts (init hs) s ⟨[], rfl⟩ h
    intro s a s' ⟨r, hr⟩ hst
    obtain ⟨x, hx⟩ := accepted_step cap s a s' hst
    exact ⟨r ++ x, by rw [hx, hr]; rfl⟩
  · intro hq hp
    rw [hq, hp] at i
    simpa using i

end OAP.Transport
