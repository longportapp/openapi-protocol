/-
C16 / C14, view ConnThreads: the goroutines of ONE connection (reader R, writer W, dispatcher D), the callers of its
`Close` and its environment (peer, senders).  Proved: after `Close` every one of R, W, D terminates in every schedule
and never blocks for ever; `Close` is idempotent and never blocks for ever either.

Go code mirrored (go/client/tcp_conn.go; ws_conn.go has the same structure — the differences are listed below).

  reading (R)                                   writing (W, tcp)                          OnPacket → dispatcher (D)
    for {                                         for {                                     onPacketOnce.Do(go func() {   dStart
      if conn.closed() { return }      rTop         if conn.closed() { return }   wTop        for { select {
      n, err := conn.conn.Read(buf)    (inRead)     select {                      (sel)         case <-conn.closeCh:       dSelClose
      if err != nil {                  rReadErr     case <-conn.closeCh: return   wSelClose       for { select {           (drain)
        conn.Close(err); return }      rClose…      case b := <-conn.writeCh:     wSelRecv          case p := <-packetCh:  dDrain (take)
      … readPacket:                    rReadData      conn.conn.Write(b)          (inWrite)           fn(p, nil); continue dHandled
        for each frame: addPacket(p)   rAdd           err → conn.Close; return    wWriteErr, wClose…  default: }           dDrain (empty)
        decode error → conn.Close      rDecoded       n < len(b) → keep the rest  wWriteOk true       break }
    }                                               case <-t.C:                   wSelTick        fn(nil, errConnClosed)   dFinal
                                                      left-over bytes → Write     (inWrite)       return
  addPacket: select { case packetCh <- p:           } }                                         case p := <-conn.packetCh: dSelRecv
             default: drop + warn }                                                               fn(p, nil) } } })        dHandled

  Close(err):  if conn.closed() { return }                  rCloseTest / wCloseTest / xCloseTest i
               conn.closeOnce.Do(func() {                   rCloseOnce / wCloseOnce / xCloseOnce i   (waits while another caller is inside)
                 close(conn.closeCh)                        body  (.sig)
                 _ = conn.conn.Close()                      body  (.sock)
                 conn.DispatchClose(err) })                 body  (.cb: the callbacks return), body (.rel: Do returns, Close returns)
  Write → write: if conn.closed() { return errConnClosed }  send stale   (stale = the closed() test was made before the close)
                 select { case writeCh <- data: default: return "write queue full" }
  writeCh and packetCh are never closed.

ws_conn.go: W is `for { select { case <-closeCh: return; case b = <-writeCh: }; if conn.closed() { return };
WriteMessage(b); err → Close; return }` (`cfg.ws = true`: the loop starts at `sel`, `wSelRecv` goes to `chk`, no ticker);
R is `NextReader` (blocks like `Read`; the ping/pong/close handlers run inside it and call `addPacket`), `ReadAll`,
`readPacket` of one message: covered by `rReadData n bad` with any n.

BLOCKING is the absence of an enabled step:
  * R in `inRead` steps only if the peer has sent a chunk, the peer has closed, or the socket was closed locally;
  * W in `inWrite` steps only if the peer is not stalled, the peer has closed (error), or the socket was closed locally;
  * W in `sel` / D in `sel` step only if one of the select cases is ready (Go picks ANY ready case: one action per case);
  * a `closeOnce.Do` caller steps only if the Once is free or done (sync.Once: later callers wait until f has returned).
Trusted (DESIGN.md section 6): a local `conn.conn.Close()` makes a blocked or later `Read`/`Write` return an error; the user
handler `fn` and the close callbacks return (`dHandled`, `dFinal`, `body` at `.cb` are always enabled); sync.Once semantics.  (That the ticker
of the tcp writer keeps ticking is used only in the remark on the tcp writer under `noCloseCase`.)

`Variant` switches ONE guard off, to show that the theorems are not vacuous (the seeded bugs are expressible and do
strand a goroutine): `blockingAdd` (addPacket waits for room), `keepSocket` (Close does not close the socket),
`noCloseCase` (the writer's select has no closeCh case), `dNoCloseCase` (the dispatcher's select has no closeCh case: a
dispatcher that only waits for packets, `for { p := <-conn.packetCh; … }`).  All theorems about the code are for `Variant.code`.

Proved for every interleaving (`run cfg (init cfg) acts = some s →`, or `WInv cfg s →` where that is all the proof uses; every
queue size, both transports):
  close_once                  closeCh closed ≤ 1×, socket closed ≤ 1×, callbacks ≤ 1×, final report ≤ 1×, D started ≤ 1×,
                              whoever calls Close and however many at once; order signal → socket → callbacks
  no_block_after_close        after Close each of R, W, D that has not exited has an enabled own step, whatever the peer
                              and the queues (or waits at the Once of its own nested Close for a body that never waits)
  exits_after_close(_parts)   after Close: budget `mu` (bounded: `mu_le`), never stuck before the end, every maximal schedule
                              ends all-exited
  can_always_finish, close_completes, close_leads_to_exit             a schedule to the end exists
  exited_run, final_report_iff_exited       nothing restarts, nothing is delivered after the final report
  sender_never_blocks, fresh_sender_refused
  close_call_can_step, close_after_signal_returns, body_enabled      a Close call never blocks for ever
  strandedA … strandedD with `_no_step`, `_step`                      each guard is necessary (on the variants): a stranded
                              goroutine has no step and stays stranded; the decided schedules that get there are in C16
Not in this view: the ticker of the tcp writer as a resource (it is never stopped in the source); the WebSocket control
frames (`WriteControl`, 3 s deadline: ping and close written by the caller, the pong by R inside `NextReader`); what the handlers and callbacks do (views Quartet, Recovery).
-/
import OAP.LTS
namespace OAP.ConnThreads

def upd {α} (f : Nat → α) (k : Nat) (v : α) : Nat → α := fun x => if x = k then v else f x
@[simp] theorem upd_same {α} (f : Nat → α) k v : upd f k v k = v := by simp [upd]
@[simp] theorem upd_other {α} (f : Nat → α) k v x (h : x ≠ k) : upd f k v x = f x := by simp [upd, h]

inductive Variant | code | blockingAdd | keepSocket | noCloseCase | dNoCloseCase
deriving DecidableEq, Repr

/-- `ReadQueueSize`, `WriteQueueSize`, transport -/
structure Cfg where
  pcap : Nat
  wcap : Nat
  ws : Bool

/-- who runs the body of `closeOnce.Do` -/
inductive Who | r | w | x (i : Nat)
deriving DecidableEq, Repr

/-- next operation of the body of `closeOnce.Do` -/
inductive BPc | sig | sock | cb | rel
deriving DecidableEq, Repr

inductive Once | free | held (who : Who) (next : BPc) | done
deriving DecidableEq, Repr

/-- inside a call of `conn.Close` -/
inductive CPc
  | test     -- about to test `conn.closed()`
  | once     -- about to enter `closeOnce.Do`
  | body     -- inside the body (its progress is `Once.held _ next`)
deriving DecidableEq, Repr

inductive RPc
  | top                            -- loop head: about to test `conn.closed()`
  | inRead                         -- inside `conn.conn.Read` / `NextReader`
  | decode (k : Nat) (bad : Bool)  -- `readPacket`: k frames still to hand to `addPacket`, then a decode error iff `bad`
  | close (c : CPc)                -- inside `conn.Close(err)`; returns afterwards
  | exited
deriving DecidableEq, Repr

inductive WPc
  | top                            -- tcp loop head: about to test `conn.closed()`
  | sel                            -- at the select
  | chk                            -- ws: a frame in hand, about to test `conn.closed()`
  | inWrite                        -- inside `conn.conn.Write` / `WriteMessage`
  | close (c : CPc)
  | exited
deriving DecidableEq, Repr

inductive DPc
  | notStarted                     -- `OnPacket` has not been called
  | sel                            -- outer select
  | handling                       -- in `fn(p, nil)` from the outer select
  | drain                          -- inner select of the drain loop
  | drainHandling                  -- in `fn(p, nil)` from the drain loop
  | final                          -- about to call `fn(nil, errConnClosed)`
  | exited
deriving DecidableEq, Repr

/-- any other goroutine that may call `conn.Close` (user, recovery replacing the conn, dial after a failed handshake
write, a handler) — any number of them, any number of times each -/
inductive XPc | idle | close (c : CPc)
deriving DecidableEq, Repr

structure St where
  r : RPc
  w : WPc
  d : DPc
  ext : Nat → XPc
  once : Once               -- conn.closeOnce
  closeSig : Bool           -- closeCh is closed
  sockClosed : Bool         -- conn.conn.Close() has been called
  pq : Nat                  -- len(packetCh)
  wq : Nat                  -- len(writeCh)
  wpend : Bool              -- tcp writer: left-over bytes of a partial write
  avail : Nat               -- chunks sent by the peer, not yet read
  peerClosed : Bool         -- the peer has closed / reset
  stalled : Bool            -- the peer does not read: a socket write does not return
  -- ghost counters
  sigCloses : Nat           -- executions of close(closeCh)   (a second one would panic)
  sockCloses : Nat          -- executions of conn.conn.Close()
  closeCallbacks : Nat      -- executions of DispatchClose
  finalReports : Nat        -- fn(nil, errConnClosed)
  dStarts : Nat             -- dispatcher goroutines started
  enq : Nat                 -- packets that entered packetCh
  delivered : Nat           -- fn(p, nil) invocations
  dropped : Nat             -- "drop packet for channel full"
  accepted : Nat            -- frames that entered writeCh
  rejected : Nat            -- Write returned "write queue full"
  refused : Nat             -- Write returned errConnClosed
  closeReturns : Nat        -- external Close calls that have returned

inductive Act
  -- reader
  | rTop | rReadData (n : Nat) (bad : Bool) | rReadErr | rAdd | rDecoded | rCloseTest | rCloseOnce
  -- writer
  | wTop | wSelClose | wSelRecv | wSelTick | wChk | wWriteOk (short : Bool) | wWriteErr | wCloseTest | wCloseOnce
  -- dispatcher
  | dStart | dSelClose | dSelRecv | dHandled | dDrain | dFinal
  -- the body of closeOnce.Do, run by whoever holds the Once
  | body
  -- other callers of conn.Close
  | xCall (i : Nat) | xCloseTest (i : Nat) | xCloseOnce (i : Nat)
  -- senders (Write → write), one atomic step
  | send (stale : Bool)
  -- peer
  | peerSend | peerClose | peerStall | peerResume
deriving DecidableEq, Repr

/-- the loop head of the writer -/
def wLoop (cfg : Cfg) : WPc := if cfg.ws then .sel else .top

def stepV (v : Variant) (cfg : Cfg) (s : St) : Act → Option St
  /- reader ------------------------------------------------------------------------------------------------------ -/
  | .rTop =>
      match s.r with
      | .top => if s.closeSig then some { s with r := .exited } else some { s with r := .inRead }
      | _ => none
  | .rReadData n bad =>     -- Read returned a chunk: n whole frames in it (n = 0: `continue` / an incomplete frame)
      match s.r with
      | .inRead => if s.sockClosed then none else
                   if 0 < s.avail then some { s with r := .decode n bad, avail := s.avail - 1 } else none
      | _ => none
  | .rReadErr =>            -- Read returned an error: local close, or EOF / reset by the peer
      match s.r with
      | .inRead => if s.sockClosed || s.peerClosed then some { s with r := .close .test } else none
      | _ => none
  | .rAdd =>                -- addPacket
      match s.r with
      | .decode (k+1) bad =>
          if s.pq < cfg.pcap then some { s with r := .decode k bad, pq := s.pq + 1, enq := s.enq + 1 }
          else if v = .blockingAdd then none
          else some { s with r := .decode k bad, dropped := s.dropped + 1 }
      | _ => none
  | .rDecoded =>            -- readPacket returns
      match s.r with
      | .decode 0 bad => if bad then some { s with r := .close .test } else some { s with r := .top }
      | _ => none
  | .rCloseTest =>
      match s.r with
      | .close .test => if s.closeSig then some { s with r := .exited } else some { s with r := .close .once }
      | _ => none
  | .rCloseOnce =>
      match s.r with
      | .close .once =>
          match s.once with
          | .free => some { s with r := .close .body, once := .held .r .sig }
          | .done => some { s with r := .exited }
          | .held _ _ => none
      | _ => none
  /- writer ------------------------------------------------------------------------------------------------------ -/
  | .wTop =>
      match s.w with
      | .top => if s.closeSig then some { s with w := .exited } else some { s with w := .sel }
      | _ => none
  | .wSelClose =>
      match s.w with
      | .sel => if s.closeSig then (if v = .noCloseCase then none else some { s with w := .exited }) else none
      | _ => none
  | .wSelRecv =>
      match s.w with
      | .sel => if 0 < s.wq then some { s with w := if cfg.ws then .chk else .inWrite, wq := s.wq - 1 } else none
      | _ => none
  | .wSelTick =>            -- tcp only: flush the left-over bytes, if any
      match s.w with
      | .sel => if cfg.ws then none else some { s with w := if s.wpend then .inWrite else .top }
      | _ => none
  | .wChk =>
      match s.w with
      | .chk => if s.closeSig then some { s with w := .exited } else some { s with w := .inWrite }
      | _ => none
  | .wWriteOk short =>    -- the socket write returned without error (tcp: possibly short)
      match s.w with
      | .inWrite => if s.sockClosed || s.stalled then none
                    else some { s with w := wLoop cfg, wpend := short && !cfg.ws }
      | _ => none
  | .wWriteErr =>
      match s.w with
      | .inWrite => if s.sockClosed || s.peerClosed then some { s with w := .close .test } else none
      | _ => none
  | .wCloseTest =>
      match s.w with
      | .close .test => if s.closeSig then some { s with w := .exited } else some { s with w := .close .once }
      | _ => none
  | .wCloseOnce =>
      match s.w with
      | .close .once =>
          match s.once with
          | .free => some { s with w := .close .body, once := .held .w .sig }
          | .done => some { s with w := .exited }
          | .held _ _ => none
      | _ => none
  /- dispatcher (a second OnPacket call does nothing: not an action) ---------------------------------------------- -/
  | .dStart =>
      match s.d with
      | .notStarted => some { s with d := .sel, dStarts := s.dStarts + 1 }
      | _ => none
  | .dSelClose =>
      match s.d with
      | .sel => if s.closeSig then (if v = .dNoCloseCase then none else some { s with d := .drain }) else none
      | _ => none
  | .dSelRecv =>
      match s.d with
      | .sel => if 0 < s.pq then some { s with d := .handling, pq := s.pq - 1, delivered := s.delivered + 1 } else none
      | _ => none
  | .dHandled =>            -- the handler returns
      match s.d with
      | .handling => some { s with d := .sel }
      | .drainHandling => some { s with d := .drain }
      | _ => none
  | .dDrain =>
      match s.d with
      | .drain => if 0 < s.pq then some { s with d := .drainHandling, pq := s.pq - 1, delivered := s.delivered + 1 }
                  else some { s with d := .final }
      | _ => none
  | .dFinal =>              -- fn(nil, errConnClosed) and return
      match s.d with
      | .final => some { s with d := .exited, finalReports := s.finalReports + 1 }
      | _ => none
  /- the body of closeOnce.Do ------------------------------------------------------------------------------------ -/
  | .body =>
      match s.once with
      | .held who .sig => some { s with once := .held who .sock, closeSig := true, sigCloses := s.sigCloses + 1 }
      | .held who .sock =>
          if v = .keepSocket then some { s with once := .held who .cb }
          else some { s with once := .held who .cb, sockClosed := true, sockCloses := s.sockCloses + 1 }
      | .held who .cb => some { s with once := .held who .rel, closeCallbacks := s.closeCallbacks + 1 }
      | .held .r .rel => some { s with once := .done, r := .exited }
      | .held .w .rel => some { s with once := .done, w := .exited }
      | .held (.x i) .rel => some { s with once := .done, ext := upd s.ext i .idle, closeReturns := s.closeReturns + 1 }
      | _ => none
  /- other callers of Close -------------------------------------------------------------------------------------- -/
  | .xCall i =>
      match s.ext i with
      | .idle => some { s with ext := upd s.ext i (.close .test) }
      | _ => none
  | .xCloseTest i =>
      match s.ext i with
      | .close .test =>
          if s.closeSig then some { s with ext := upd s.ext i .idle, closeReturns := s.closeReturns + 1 }
          else some { s with ext := upd s.ext i (.close .once) }
      | _ => none
  | .xCloseOnce i =>
      match s.ext i with
      | .close .once =>
          match s.once with
          | .free => some { s with ext := upd s.ext i (.close .body), once := .held (.x i) .sig }
          | .done => some { s with ext := upd s.ext i .idle, closeReturns := s.closeReturns + 1 }
          | .held _ _ => none
      | _ => none
  /- senders ----------------------------------------------------------------------------------------------------- -/
  | .send stale =>
      if s.closeSig && !stale then some { s with refused := s.refused + 1 }
      else if s.wq < cfg.wcap then some { s with wq := s.wq + 1, accepted := s.accepted + 1 }
      else some { s with rejected := s.rejected + 1 }
  /- peer -------------------------------------------------------------------------------------------------------- -/
  | .peerSend => some { s with avail := s.avail + 1 }
  | .peerClose => some { s with peerClosed := true }
  | .peerStall => some { s with stalled := true }
  | .peerResume => some { s with stalled := false }

def init (cfg : Cfg) : St :=
  { r := .top, w := wLoop cfg, d := .notStarted, ext := fun _ => .idle, once := .free, closeSig := false,
    sockClosed := false, pq := 0, wq := 0, wpend := false, avail := 0, peerClosed := false, stalled := false,
    sigCloses := 0, sockCloses := 0, closeCallbacks := 0, finalReports := 0, dStarts := 0, enq := 0, delivered := 0,
    dropped := 0, accepted := 0, rejected := 0, refused := 0, closeReturns := 0 }

def runV (v : Variant) (cfg : Cfg) : St → List Act → Option St
  | s, [] => some s
  | s, a :: as => (stepV v cfg s a).bind (fun s' => runV v cfg s' as)

/-- the code as it is -/
abbrev step (cfg : Cfg) (s : St) (a : Act) : Option St := stepV .code cfg s a
abbrev run (cfg : Cfg) (s : St) (acts : List Act) : Option St := runV .code cfg s acts

theorem isRunV (v : Variant) (cfg : Cfg) : LTS.IsRun (stepV v cfg) (runV v cfg) := ⟨fun _ => rfl, fun _ _ _ => rfl⟩

def isR : Act → Bool
  | .rTop | .rReadData _ _ | .rReadErr | .rAdd | .rDecoded | .rCloseTest | .rCloseOnce => true
  | _ => false
def isW : Act → Bool
  | .wTop | .wSelClose | .wSelRecv | .wSelTick | .wChk | .wWriteOk _ | .wWriteErr | .wCloseTest | .wCloseOnce => true
  | _ => false
def isD : Act → Bool
  | .dStart | .dSelClose | .dSelRecv | .dHandled | .dDrain | .dFinal => true
  | _ => false
def isPeer : Act → Bool
  | .peerSend | .peerClose | .peerStall | .peerResume => true
  | _ => false
/-- a step of R, W, D or of the goroutine inside the body of `closeOnce.Do` -/
def isThread (a : Act) : Bool := isR a || isW a || isD a || a == .body

def isRW (a : Act) : Bool := isR a || isW a || a == .body

def threadSteps (acts : List Act) : Nat := (acts.filter isThread).length

@[simp] theorem threadSteps_nil : threadSteps [] = 0 := rfl
theorem threadSteps_cons (a : Act) (as : List Act) :
    threadSteps (a :: as) = (if isThread a then 1 else 0) + threadSteps as := LTS.length_filter_cons _ a as

def allExited (s : St) : Prop := s.r = .exited ∧ s.w = .exited ∧ s.d = .exited

instance (s : St) : Decidable (allExited s) := by unfold allExited; infer_instance

/-! ### invariant

The flags and the ghost counters are functions of the Once (free → held sig → held sock → held cb → held rel → done):
that is "everything in Close happens once, in this order, whoever calls".  A thread is at `close .body` iff it holds the
Once.  The queues respect their capacities; every packet that entered packetCh is queued or was handed to the handler. -/

def sigDone : Once → Bool
  | .free => false | .held _ .sig => false | _ => true
def sockDone : Once → Bool
  | .free => false | .held _ .sig => false | .held _ .sock => false | _ => true
def cbDone : Once → Bool
  | .held _ .rel => true | .done => true | _ => false
def holder : Once → Option Who
  | .held who _ => some who | _ => none

structure WInv (cfg : Cfg) (s : St) : Prop where
  sig : s.closeSig = sigDone s.once
  sock : s.sockClosed = sockDone s.once
  nSig : s.sigCloses = if sigDone s.once then 1 else 0
  nSock : s.sockCloses = if sockDone s.once then 1 else 0
  nCb : s.closeCallbacks = if cbDone s.once then 1 else 0
  rBody : s.r = .close .body ↔ holder s.once = some .r
  wBody : s.w = .close .body ↔ holder s.once = some .w
  xBody : ∀ i, s.ext i = .close .body ↔ holder s.once = some (.x i)
  fin : s.finalReports = if s.d = .exited then 1 else 0
  dst : s.dStarts = if s.d = .notStarted then 0 else 1
  pqCap : s.pq ≤ cfg.pcap
  wqCap : s.wq ≤ cfg.wcap
  acct : s.enq = s.pq + s.delivered

theorem inv_init (cfg : Cfg) : WInv cfg (init cfg) := by
  constructor <;> simp [init, sigDone, sockDone, cbDone, holder, wLoop]
  split <;> simp

section
attribute [local grind] upd sigDone sockDone cbDone holder wLoop

/-- the scheme of `OAP/LTS.lean`; every field is kept on its own: `grind` gets nothing but its old self -/
theorem inv_step (cfg : Cfg) (s : St) (a : Act) (s' : St) (i : WInv cfg s) (hs : stepV .code cfg s a = some s') :
    WInv cfg s' := by
  revert hs
  fun_cases stepV .code cfg s a <;> rintro ⟨⟩ <;>
    (constructor
     case sig => first | with_reducible exact i.sig | (have := i.sig; grind)
     case sock => first | with_reducible exact i.sock | (have := i.sock; grind)
     case nSig => first | with_reducible exact i.nSig | (have := i.nSig; grind)
     case nSock => first | with_reducible exact i.nSock | (have := i.nSock; grind)
     case nCb => first | with_reducible exact i.nCb | (have := i.nCb; grind)
     case rBody => first | with_reducible exact i.rBody | (have := i.rBody; grind)
     case wBody => first | with_reducible exact i.wBody | (have := i.wBody; grind)
     case xBody => first | with_reducible exact i.xBody | (have := i.xBody; grind)
     case fin => first | with_reducible exact i.fin | (have := i.fin; grind)
     case dst => first | with_reducible exact i.dst | (have := i.dst; grind)
     case pqCap => first | with_reducible exact i.pqCap | (have := i.pqCap; grind)
     case wqCap => first | with_reducible exact i.wqCap | (have := i.wqCap; grind)
     case acct => first | with_reducible exact i.acct | (have := i.acct; grind))
end

theorem inv_run (cfg : Cfg) (acts : List Act) (s s' : St) (h : WInv cfg s) (hr : run cfg s acts = some s') : WInv cfg s' :=
  (isRunV .code cfg).inv (inv_step cfg) acts s s' h hr

theorem inv_reach (cfg : Cfg) (acts : List Act) (s : St) (h : run cfg (init cfg) acts = some s) : WInv cfg s :=
  inv_run cfg acts _ s (inv_init cfg) h

/-- CLOSE ONCE: in every run, whoever calls `Close` — R on a read error, W on a write error, any number of other
goroutines, any number of times, all at once — `close(closeCh)` is executed at most once (a second one would panic),
the socket is closed at most once, `DispatchClose` (the close callbacks) runs at most once, D reports the final error at
most once and is started at most once; the flags are exactly "executed once"; the order is signal, socket, callbacks; a
completed Close (Once done) has done all three. -/
theorem close_once (cfg : Cfg) (acts : List Act) (s : St) (h : run cfg (init cfg) acts = some s) :
    s.sigCloses ≤ 1 ∧ s.sockCloses ≤ 1 ∧ s.closeCallbacks ≤ 1 ∧ s.finalReports ≤ 1 ∧ s.dStarts ≤ 1 ∧
    (s.closeSig = true ↔ s.sigCloses = 1) ∧ (s.sockClosed = true ↔ s.sockCloses = 1) ∧
    (s.sockClosed = true → s.closeSig = true) ∧ (s.closeCallbacks = 1 → s.sockClosed = true) ∧
    (s.once = .done → s.sigCloses = 1 ∧ s.sockCloses = 1 ∧ s.closeCallbacks = 1) := by
  have i := inv_reach cfg acts s h
  have hf : s.finalReports ≤ 1 := by rw [i.fin]; split <;> omega
  have hd : s.dStarts ≤ 1 := by rw [i.dst]; split <;> omega
  have := i.sig; have := i.sock; have := i.nSig; have := i.nSock; have := i.nCb
  clear i
  cases ho : s.once with
  | free => simp_all [sigDone, sockDone, cbDone]
  | done => simp_all [sigDone, sockDone, cbDone]
  | held who b => cases b <;> simp_all [sigDone, sockDone, cbDone]

/-- the goroutine inside the body of `closeOnce.Do` never waits: its next operation is enabled whenever the Once is held -/
theorem body_enabled (cfg : Cfg) (s : St) : (step cfg s .body).isSome = true ↔ holder s.once ≠ none := by
  cases ho : s.once with
  | free => simp [step, stepV, ho, holder]
  | done => simp [step, stepV, ho, holder]
  | held who b => cases b <;> cases who <;> simp [step, stepV, ho, holder]

/-- R in `Read` after the socket was closed locally: the read returns an error — whatever the peer does -/
theorem reader_in_read_unblocked (cfg : Cfg) (s : St) (hp : s.r = .inRead) (hk : s.sockClosed = true) :
    (step cfg s .rReadErr).isSome = true := by simp [step, stepV, hp, hk]

/-- `addPacket` never blocks, whatever the queue length: enqueue, or drop with a warning -/
theorem add_never_blocks (cfg : Cfg) (s : St) (k : Nat) (b : Bool) (hp : s.r = .decode (k+1) b) :
    (step cfg s .rAdd).isSome = true := by
  simp only [step, stepV, hp]; split <;> simp

/-- W in `Write` after the socket was closed locally: the write returns an error — even if the peer is stalled -/
theorem writer_in_write_unblocked (cfg : Cfg) (s : St) (hp : s.w = .inWrite) (hk : s.sockClosed = true) :
    (step cfg s .wWriteErr).isSome = true := by simp [step, stepV, hp, hk]

/-- W at its select after the close signal: the closeCh case is ready — even if writeCh is empty -/
theorem writer_at_select_unblocked (cfg : Cfg) (s : St) (hp : s.w = .sel) (hc : s.closeSig = true) :
    (step cfg s .wSelClose).isSome = true := by simp [step, stepV, hp, hc]

/-- D at its select after the close signal: the closeCh case is ready — even if packetCh is empty -/
theorem dispatcher_at_select_unblocked (cfg : Cfg) (s : St) (hp : s.d = .sel) (hc : s.closeSig = true) :
    (step cfg s .dSelClose).isSome = true := by simp [step, stepV, hp, hc]

theorem r_can_step (cfg : Cfg) (s : St) (h : WInv cfg s) (hk : s.sockClosed = true) (hr : s.r ≠ .exited) :
    (∃ a, isR a = true ∧ (step cfg s a).isSome = true) ∨
    ((s.r = .close .once ∨ s.r = .close .body) ∧ (step cfg s .body).isSome = true) := by
  cases hp : s.r with
  | top => left; refine ⟨.rTop, rfl, ?_⟩; simp only [step, stepV, hp]; split <;> simp
  | inRead => left; exact ⟨.rReadErr, rfl, reader_in_read_unblocked cfg s hp hk⟩
  | decode k b =>
    left
    cases k with
    | zero => refine ⟨.rDecoded, rfl, ?_⟩; simp only [step, stepV, hp]; split <;> simp
    | succ k => exact ⟨.rAdd, rfl, add_never_blocks cfg s k b hp⟩
  | close c =>
    cases c with
    | test => left; refine ⟨.rCloseTest, rfl, ?_⟩; simp only [step, stepV, hp]; split <;> simp
    | once =>
      cases ho : s.once with
      | free => left; refine ⟨.rCloseOnce, rfl, ?_⟩; simp [step, stepV, hp, ho]
      | done => left; refine ⟨.rCloseOnce, rfl, ?_⟩; simp [step, stepV, hp, ho]
      | held who b => right; exact ⟨.inl rfl, (body_enabled cfg s).mpr (by simp [ho, holder])⟩
    | body => right; exact ⟨.inr rfl, (body_enabled cfg s).mpr (by simp [h.rBody.mp hp])⟩
  | exited => exact absurd hp hr

theorem w_can_step (cfg : Cfg) (s : St) (h : WInv cfg s) (hc : s.closeSig = true) (hk : s.sockClosed = true)
    (hw : s.w ≠ .exited) :
    (∃ a, isW a = true ∧ (step cfg s a).isSome = true) ∨
    ((s.w = .close .once ∨ s.w = .close .body) ∧ (step cfg s .body).isSome = true) := by
  cases hp : s.w with
  | top => left; refine ⟨.wTop, rfl, ?_⟩; simp only [step, stepV, hp]; split <;> simp
  | sel => left; exact ⟨.wSelClose, rfl, writer_at_select_unblocked cfg s hp hc⟩
  | chk => left; refine ⟨.wChk, rfl, ?_⟩; simp only [step, stepV, hp]; split <;> simp
  | inWrite => left; exact ⟨.wWriteErr, rfl, writer_in_write_unblocked cfg s hp hk⟩
  | close c =>
    cases c with
    | test => left; refine ⟨.wCloseTest, rfl, ?_⟩; simp only [step, stepV, hp]; split <;> simp
    | once =>
      cases ho : s.once with
      | free => left; refine ⟨.wCloseOnce, rfl, ?_⟩; simp [step, stepV, hp, ho]
      | done => left; refine ⟨.wCloseOnce, rfl, ?_⟩; simp [step, stepV, hp, ho]
      | held who b => right; exact ⟨.inl rfl, (body_enabled cfg s).mpr (by simp [ho, holder])⟩
    | body => right; exact ⟨.inr rfl, (body_enabled cfg s).mpr (by simp [h.wBody.mp hp])⟩
  | exited => exact absurd hp hw

theorem d_can_step (cfg : Cfg) (s : St) (hc : s.closeSig = true) (hd : s.d ≠ .exited) :
    ∃ a, isD a = true ∧ (step cfg s a).isSome = true := by
  cases hp : s.d with
  | notStarted => exact ⟨.dStart, rfl, by simp [step, stepV, hp]⟩
  | sel => exact ⟨.dSelClose, rfl, dispatcher_at_select_unblocked cfg s hp hc⟩
  | handling => exact ⟨.dHandled, rfl, by simp [step, stepV, hp]⟩
  | drain => refine ⟨.dDrain, rfl, ?_⟩; simp only [step, stepV, hp]; split <;> simp
  | drainHandling => exact ⟨.dHandled, rfl, by simp [step, stepV, hp]⟩
  | final => exact ⟨.dFinal, rfl, by simp [step, stepV, hp]⟩
  | exited => exact absurd hp hd

/-- PROGRESS: in every reachable state after Close (`closeSig ∧ sockClosed`) each of R, W, D that has not exited has
an enabled step of its own — whatever the peer does (silent, stalled, gone) and whatever the queue lengths; the
witnesses are the five lemmas above and the always-enabled steps (`closed()` tests, `addPacket`, handler returns).
The only wait left is sync.Once: a reader / writer that called `Close` just before somebody else won the Once waits
at `closeOnce.Do` (`close .once`) until that body is done — and the body's next step is enabled (`body_enabled`; with
the socket closed at most two are left: `WInv.sock`); at `close .body` the `body` step is the thread's own. -/
theorem no_block_after_close (cfg : Cfg) (acts : List Act) (s : St) (h : run cfg (init cfg) acts = some s)
    (hc : s.closeSig = true) (hk : s.sockClosed = true) :
    (s.r ≠ .exited → (∃ a, isR a = true ∧ (step cfg s a).isSome = true) ∨
        ((s.r = .close .once ∨ s.r = .close .body) ∧ (step cfg s .body).isSome = true)) ∧
    (s.w ≠ .exited → (∃ a, isW a = true ∧ (step cfg s a).isSome = true) ∨
        ((s.w = .close .once ∨ s.w = .close .body) ∧ (step cfg s .body).isSome = true)) ∧
    (s.d ≠ .exited → ∃ a, isD a = true ∧ (step cfg s a).isSome = true) :=
  have i := inv_reach cfg acts s h
  ⟨r_can_step cfg s i hk, w_can_step cfg s i hc hk, d_can_step cfg s hc⟩

theorem rw_can_step (cfg : Cfg) (s : St) (h : WInv cfg s) (hc : s.closeSig = true) (hk : s.sockClosed = true)
    (hn : ¬ (s.r = .exited ∧ s.w = .exited)) : ∃ a, isRW a = true ∧ (step cfg s a).isSome = true := by
  by_cases hr : s.r = .exited
  · rcases w_can_step cfg s h hc hk (fun hw => hn ⟨hr, hw⟩) with ⟨a, ha, he⟩ | ⟨_, he⟩
    · exact ⟨a, by simp [isRW, ha], he⟩
    · exact ⟨.body, rfl, he⟩
  · rcases r_can_step cfg s h hk hr with ⟨a, ha, he⟩ | ⟨_, he⟩
    · exact ⟨a, by simp [isRW, ha], he⟩
    · exact ⟨.body, rfl, he⟩

theorem some_thread_step (cfg : Cfg) (s : St) (h : WInv cfg s) (hc : s.closeSig = true) (hk : s.sockClosed = true)
    (hne : ¬ allExited s) : ∃ a, isThread a = true ∧ (step cfg s a).isSome = true := by
  by_cases hrw : s.r = .exited ∧ s.w = .exited
  · obtain ⟨a, ha, he⟩ := d_can_step cfg s hc (fun hd => hne ⟨hrw.1, hrw.2, hd⟩)
    exact ⟨a, by simp [isThread, ha], he⟩
  · obtain ⟨a, ha, he⟩ := rw_can_step cfg s h hc hk hrw
    exact ⟨a, by grind [isRW, isThread], he⟩

/-! ### termination: the measure

`mu s` = steps R still makes + steps W still makes + operations left in the Close body + steps D still makes (two per
packet that is queued or that R is still going to queue, + its way out).  After Close every step of R, W, D or the body
takes at least 1 off, and nothing else (peer, senders, further Close callers) adds to it: senders cannot add work for W
(it never looks at writeCh's length again: at most one more dequeue), the peer's data is no longer read. -/

/-- steps R still makes after Close, from its program counter -/
def muR : RPc → Nat
  | .top => 1 | .inRead => 2 | .decode k _ => k + 2 | .close _ => 1 | .exited => 0
def muW : WPc → Nat
  | .top => 1 | .sel => 4 | .chk => 3 | .inWrite => 2 | .close _ => 1 | .exited => 0
/-- frames the reader still has to hand to addPacket -/
def pendR : RPc → Nat
  | .decode k _ => k | _ => 0
/-- D: two steps per packet still to deliver (take it, handler returns) + the way to the exit -/
def muDpc (p : Nat) : DPc → Nat
  | .notStarted => 2 * p + 4 | .sel => 2 * p + 3 | .handling => 2 * p + 4 | .drain => 2 * p + 2
  | .drainHandling => 2 * p + 3 | .final => 1 | .exited => 0
def muD (s : St) : Nat := muDpc (s.pq + pendR s.r) s.d
/-- operations left in the body of closeOnce.Do -/
def muH : Once → Nat
  | .held _ .sig => 4 | .held _ .sock => 3 | .held _ .cb => 2 | .held _ .rel => 1 | _ => 0

section
variable (k : Nat) (b : Bool) (c : CPc) (p : Nat) (who : Who)
@[simp] theorem muR_top : muR .top = 1 := rfl
@[simp] theorem muR_inRead : muR .inRead = 2 := rfl
@[simp] theorem muR_decode : muR (.decode k b) = k + 2 := rfl
@[simp] theorem muR_close : muR (.close c) = 1 := rfl
@[simp] theorem muR_exited : muR .exited = 0 := rfl
@[simp] theorem muW_top : muW .top = 1 := rfl
@[simp] theorem muW_sel : muW .sel = 4 := rfl
@[simp] theorem muW_chk : muW .chk = 3 := rfl
@[simp] theorem muW_inWrite : muW .inWrite = 2 := rfl
@[simp] theorem muW_close : muW (.close c) = 1 := rfl
@[simp] theorem muW_exited : muW .exited = 0 := rfl
@[simp] theorem pendR_top : pendR .top = 0 := rfl
@[simp] theorem pendR_inRead : pendR .inRead = 0 := rfl
@[simp] theorem pendR_decode : pendR (.decode k b) = k := rfl
@[simp] theorem pendR_close : pendR (.close c) = 0 := rfl
@[simp] theorem pendR_exited : pendR .exited = 0 := rfl
@[simp] theorem muDpc_notStarted : muDpc p .notStarted = 2 * p + 4 := rfl
@[simp] theorem muDpc_sel : muDpc p .sel = 2 * p + 3 := rfl
@[simp] theorem muDpc_handling : muDpc p .handling = 2 * p + 4 := rfl
@[simp] theorem muDpc_drain : muDpc p .drain = 2 * p + 2 := rfl
@[simp] theorem muDpc_drainHandling : muDpc p .drainHandling = 2 * p + 3 := rfl
@[simp] theorem muDpc_final : muDpc p .final = 1 := rfl
@[simp] theorem muDpc_exited : muDpc p .exited = 0 := rfl
@[simp] theorem muH_free : muH .free = 0 := rfl
@[simp] theorem muH_done : muH .done = 0 := rfl
@[simp] theorem muH_sig : muH (.held who .sig) = 4 := rfl
@[simp] theorem muH_sock : muH (.held who .sock) = 3 := rfl
@[simp] theorem muH_cb : muH (.held who .cb) = 2 := rfl
@[simp] theorem muH_rel : muH (.held who .rel) = 1 := rfl
end

theorem muDpc_mono (p q : Nat) (d : DPc) (h : p ≤ q) : muDpc p d ≤ muDpc q d := by
  cases d <;> simp <;> omega

def muRW (s : St) : Nat := muR s.r + muW s.w + muH s.once
def mu (s : St) : Nat := muRW s + muD s

def rwSteps (acts : List Act) : Nat := (acts.filter isRW).length
def dSteps (acts : List Act) : Nat := (acts.filter isD).length

theorem rwSteps_cons (a : Act) (as : List Act) : rwSteps (a :: as) = (if isRW a then 1 else 0) + rwSteps as :=
  LTS.length_filter_cons _ a as
theorem dSteps_cons (a : Act) (as : List Act) : dSteps (a :: as) = (if isD a then 1 else 0) + dSteps as :=
  LTS.length_filter_cons _ a as

theorem thread_split (a : Act) :
    (if isThread a then 1 else 0) = (if isRW a then 1 else 0) + (if isD a then 1 else 0) := by
  cases a <;> simp [isThread, isRW, isR, isW, isD]

theorem threadSteps_split (acts : List Act) : threadSteps acts = rwSteps acts + dSteps acts := by
  induction acts with
  | nil => rfl
  | cons a as ih => rw [threadSteps_cons, rwSteps_cons, dSteps_cons, thread_split, ih]; omega

theorem mu_step (cfg : Cfg) (s : St) (a : Act) (s' : St) (hi : s.closeSig = sigDone s.once)
    (hc : s.closeSig = true) (hk : s.sockClosed = true) (hs : stepV .code cfg s a = some s') :
    s'.closeSig = true ∧ s'.sockClosed = true ∧
    muRW s' + (if isRW a then 1 else 0) ≤ muRW s ∧ muD s' + (if isD a then 1 else 0) ≤ muD s := by
  revert hs
  fun_cases stepV .code cfg s a <;> rintro ⟨⟩ <;>
    (refine ⟨by first | exact hc | rfl, by first | exact hk | rfl, ?_, ?_⟩) <;>
    simp_all [muRW, muD, isRW, isR, isW, isD, sigDone] <;>
    -- `omega` does it but for `wSelRecv` and `wSelTick`, where the writer's new pc is an `if` (`split`), and for `rAdd` and the
    -- return of R's own Close (`body` at `.rel`), where R's pending frames go down under an unknown pc of D (`muDpc_mono`)
    (try omega) <;> (try (split <;> simp <;> omega)) <;> (try (apply muDpc_mono; omega))

theorem mu_run (cfg : Cfg) (acts : List Act) : ∀ s s', WInv cfg s → s.closeSig = true → s.sockClosed = true →
    run cfg s acts = some s' →
    s'.closeSig = true ∧ s'.sockClosed = true ∧
    muRW s' + rwSteps acts ≤ muRW s ∧ muD s' + dSteps acts ≤ muD s := by
  induction acts with
  | nil => intro s s' _ hc hk hr; simp [run, runV] at hr; subst hr; exact ⟨hc, hk, by simp [rwSteps], by simp [dSteps]⟩
  | cons a as ih =>
    intro s s' hi hc hk hr
    obtain ⟨s1, h1, h2⟩ := (isRunV _ cfg).cons_some hr
    obtain ⟨c1, k1, m1, d1⟩ := mu_step cfg s a s1 hi.sig hc hk h1
    obtain ⟨c2, k2, m2, d2⟩ := ih s1 s' (inv_step cfg s a s1 hi h1) c1 k1 h2
    rw [rwSteps_cons, dSteps_cons]
    exact ⟨c2, k2, by omega, by omega⟩

theorem muR_zero (p : RPc) : muR p = 0 ↔ p = .exited := by cases p <;> simp [muR]
theorem muW_zero (p : WPc) : muW p = 0 ↔ p = .exited := by cases p <;> simp [muW]
theorem muD_zero (s : St) : muD s = 0 ↔ s.d = .exited := by
  unfold muD; cases s.d <;> simp [muDpc]

theorem mu_zero (s : St) (h : mu s = 0) : allExited s := by
  unfold mu muRW at h
  exact ⟨(muR_zero _).mp (by omega), (muW_zero _).mp (by omega), (muD_zero _).mp (by omega)⟩

/-- TERMINATION, bounded: from any reachable state `s` after Close, along EVERY schedule `acts` (any interleaving with
peer actions, senders and further Close callers) ending in `s'`:
(1) budget: `mu s' + (steps of R, W, D and the Close body in acts) ≤ mu s` — so no schedule contains more than `mu s` of
    their steps (no infinite run), and `mu s ≤ 2·ReadQueueSize + 3·(frames R is still decoding) + 12` (`mu_le`);
(2) never stuck before the end: unless R, W and D have all exited in `s'`, one of their steps (or the body's) is enabled;
(3) so a schedule that cannot be extended by a thread step — and any schedule that has used up the budget — ends with
    R, W and D all exited.
This is termination under every scheduler that does not starve an enabled goroutine for ever. -/
theorem exits_after_close (cfg : Cfg) (acts0 acts : List Act) (s s' : St) (h0 : run cfg (init cfg) acts0 = some s)
    (hc : s.closeSig = true) (hk : s.sockClosed = true) (h : run cfg s acts = some s') :
    mu s' + threadSteps acts ≤ mu s ∧
    (¬ allExited s' → ∃ a, isThread a = true ∧ (step cfg s' a).isSome = true) ∧
    ((∀ a, isThread a = true → step cfg s' a = none) → allExited s') ∧
    (mu s ≤ threadSteps acts → allExited s') := by
  have hi := inv_reach cfg acts0 s h0
  obtain ⟨c', k', m, d⟩ := mu_run cfg acts s s' hi hc hk h
  have hi' := inv_run cfg acts s s' hi h
  have hs := threadSteps_split acts
  have stuck := some_thread_step cfg s' hi' c' k'
  refine ⟨by unfold mu; omega, stuck, fun hn => ?_, fun hle => mu_zero s' (by unfold mu at *; omega)⟩
  by_cases he : allExited s'
  · exact he
  · obtain ⟨a, ha, hen⟩ := stuck he
    rw [hn a ha] at hen; cases hen

/-- the same for R and W alone (their steps and the Close body's; also when `OnPacket` is never called) and for D
alone: budget, never stuck, exit -/
theorem exits_after_close_parts (cfg : Cfg) (acts : List Act) (s s' : St) (hi : WInv cfg s) (hc : s.closeSig = true)
    (hk : s.sockClosed = true) (h : run cfg s acts = some s') :
    (muRW s' + rwSteps acts ≤ muRW s ∧
      (¬ (s'.r = .exited ∧ s'.w = .exited) → ∃ a, isRW a = true ∧ (step cfg s' a).isSome = true) ∧
      (muRW s ≤ rwSteps acts → s'.r = .exited ∧ s'.w = .exited)) ∧
    (muD s' + dSteps acts ≤ muD s ∧
      (s'.d ≠ .exited → ∃ a, isD a = true ∧ (step cfg s' a).isSome = true) ∧
      (muD s ≤ dSteps acts → s'.d = .exited)) := by
  obtain ⟨c', k', m, d⟩ := mu_run cfg acts s s' hi hc hk h
  refine ⟨⟨m, rw_can_step cfg s' (inv_run cfg acts s s' hi h) c' k', fun hle => ?_⟩, d, d_can_step cfg s' c',
    fun hle => (muD_zero _).mp (by omega)⟩
  have : muRW s' = 0 := by omega
  unfold muRW at this
  exact ⟨(muR_zero _).mp (by omega), (muW_zero _).mp (by omega)⟩

theorem mu_le (cfg : Cfg) (s : St) (h : WInv cfg s) (hk : s.sockClosed = true) :
    mu s ≤ 2 * cfg.pcap + 3 * pendR s.r + 12 := by
  have h1 : muR s.r ≤ pendR s.r + 2 := by cases s.r <;> simp [muR, pendR]
  have h2 : muW s.w ≤ 4 := by cases s.w <;> simp [muW]
  have h3 : muD s ≤ 2 * (s.pq + pendR s.r) + 4 := by unfold muD; cases s.d <;> simp [muDpc]
  have h4 : muH s.once ≤ 2 := by
    have := h.sock; rw [hk] at this
    cases ho : s.once with
    | free => simp [muH]
    | done => simp [muH]
    | held who b => rw [ho] at this; cases b <;> simp [sockDone] at this <;> simp
  have := h.pqCap
  unfold mu muRW; omega

/-- there IS a schedule to the end from every state after Close (no dead end; by `exits_after_close` every schedule with
enough thread steps gets there) -/
theorem can_always_finish (cfg : Cfg) (s : St) (hi : WInv cfg s) (hc : s.closeSig = true) (hk : s.sockClosed = true) :
    ∃ acts s', run cfg s acts = some s' ∧ allExited s' := by
  obtain ⟨acts, s', -, h⟩ := (isRunV .code cfg).can_finish
    (I := fun s => WInv cfg s ∧ s.closeSig = true ∧ s.sockClosed = true) (good := fun _ => True) mu
    (fun s ⟨hi, hc, hk⟩ hd => by
      obtain ⟨a, ha, hen⟩ := some_thread_step cfg s hi hc hk hd
      obtain ⟨s1, h1⟩ := Option.isSome_iff_exists.mp hen
      obtain ⟨c1, k1, m1, d1⟩ := mu_step cfg s a s1 hi.sig hc hk h1
      have hcost := thread_split a
      simp only [ha, ↓reduceIte] at hcost
      exact ⟨a, s1, trivial, h1, ⟨inv_step cfg s a s1 hi h1, c1, k1⟩, by unfold mu; omega⟩)
    s ⟨hi, hc, hk⟩
  exact ⟨acts, s', h⟩

/-- what lasts from a state `s` to a later state `s'`: an exited goroutine stays exited; once D has exited nothing is
delivered and nothing is reported any more -/
def KeepsExited (s s' : St) : Prop :=
  (s.r = .exited → s'.r = .exited) ∧ (s.w = .exited → s'.w = .exited) ∧
  (s.d = .exited → s'.d = .exited ∧ s'.delivered = s.delivered ∧ s'.finalReports = s.finalReports)

theorem exited_step (cfg : Cfg) (s : St) (a : Act) (s' : St) (hs : stepV .code cfg s a = some s') : KeepsExited s s' := by
  unfold KeepsExited
  revert hs
  fun_cases stepV .code cfg s a <;> rintro ⟨⟩ <;> simp_all

theorem exited_run (cfg : Cfg) (acts : List Act) (s s' : St) (hr : run cfg s acts = some s') : KeepsExited s s' :=
  (isRunV .code cfg).inv (I := KeepsExited s)
    (fun x a x' h hs => by have := exited_step cfg x a x' hs; simp only [KeepsExited] at *; grind)
    acts s s' ⟨id, id, fun e => ⟨e, rfl, rfl⟩⟩ hr

/-- the final report is D's last act: reported ⇔ exited, in every reachable state -/
theorem final_report_iff_exited (cfg : Cfg) (acts : List Act) (s : St) (h : run cfg (init cfg) acts = some s) :
    s.finalReports = 1 ↔ s.d = .exited := by
  have := (inv_reach cfg acts s h).fin
  rw [this]; split <;> simp_all

/-- `Write` returns in one step in every state — enqueued, "write queue full", or errConnClosed; exactly one of the
three counters moves and the queue never exceeds its capacity -/
theorem sender_never_blocks (cfg : Cfg) (s : St) (stale : Bool) :
    ∃ s', step cfg s (.send stale) = some s' ∧
      ((s'.wq = s.wq + 1 ∧ s.wq < cfg.wcap ∧ s'.accepted = s.accepted + 1 ∧ s'.rejected = s.rejected ∧ s'.refused = s.refused) ∨
       (s'.wq = s.wq ∧ cfg.wcap ≤ s.wq ∧ s'.accepted = s.accepted ∧ s'.rejected = s.rejected + 1 ∧ s'.refused = s.refused) ∨
       (s'.wq = s.wq ∧ s.closeSig = true ∧ s'.accepted = s.accepted ∧ s'.rejected = s.rejected ∧ s'.refused = s.refused + 1)) ∧
      s'.r = s.r ∧ s'.w = s.w ∧ s'.d = s.d := by
  simp only [step, stepV]
  split
  · rename_i h; simp at h; exact ⟨_, rfl, by simp [h.1], rfl, rfl, rfl⟩
  · split
    · rename_i h; exact ⟨_, rfl, by simp [h], rfl, rfl, rfl⟩
    · rename_i h; exact ⟨_, rfl, by simp; omega, rfl, rfl, rfl⟩

/-- a sender that tests `closed()` after the close signal is refused and leaves the queue alone -/
theorem fresh_sender_refused (cfg : Cfg) (s : St) (hc : s.closeSig = true) :
    step cfg s (.send false) = some { s with refused := s.refused + 1 } := by
  simp [step, stepV, hc]

/-- a Close call made after the close signal returns at once, without touching the Once — also from inside the close
callbacks or a handler (the signal is set before the callbacks run: `WInv.sig`) -/
theorem close_after_signal_returns (cfg : Cfg) (s : St) (i : Nat) (hp : s.ext i = .close .test) (hc : s.closeSig = true) :
    step cfg s (.xCloseTest i) = some { s with ext := upd s.ext i .idle, closeReturns := s.closeReturns + 1 } := by
  simp [step, stepV, hp, hc]

/-- a Close call never blocks for ever: a caller inside Close has an enabled step of its own, or waits at the Once for the
goroutine inside the body — whose next step is enabled (`body_enabled`) -/
theorem close_call_can_step (cfg : Cfg) (s : St) (h : WInv cfg s) (i : Nat) (hx : s.ext i ≠ .idle) :
    (step cfg s (.xCloseTest i)).isSome = true ∨ (step cfg s (.xCloseOnce i)).isSome = true ∨
    ((s.ext i = .close .once ∨ s.ext i = .close .body) ∧ (step cfg s .body).isSome = true) := by
  cases hp : s.ext i with
  | idle => exact absurd hp hx
  | close c =>
    cases c with
    | test => left; simp only [step, stepV, hp]; split <;> simp
    | once =>
      cases ho : s.once with
      | free => right; left; simp [step, stepV, hp, ho]
      | done => right; left; simp [step, stepV, hp, ho]
      | held who b => right; right; exact ⟨.inl rfl, (body_enabled cfg s).mpr (by simp [ho, holder])⟩
    | body => right; right; exact ⟨.inr rfl, (body_enabled cfg s).mpr (by simp [(h.xBody i).mp hp])⟩

/-- the body of `closeOnce.Do` runs to its end without waiting for anybody: from any state in which the Once is held,
at most four `body` steps — all enabled — leave the Once done, the signal set and the socket closed -/
theorem close_completes (cfg : Cfg) (s : St) (hi : WInv cfg s) (hh : holder s.once ≠ none) :
    ∃ n s', n ≤ 4 ∧ run cfg s (List.replicate n .body) = some s' ∧ s'.once = .done ∧ s'.closeSig = true ∧
      s'.sockClosed = true := by
  -- the flags of the end state are read off the invariant there (`once = done`)
  have key : ∃ n s', n ≤ 4 ∧ run cfg s (List.replicate n .body) = some s' ∧ s'.once = .done := by
    refine ⟨muH s.once, ?_⟩
    cases ho : s.once with
    | free => simp [ho, holder] at hh
    | done => simp [ho, holder] at hh
    | held who b =>
      cases b <;> cases who <;> exact ⟨_, by simp, by simp [List.replicate, run, runV, stepV, ho]; rfl, rfl⟩
  obtain ⟨n, s', hn, hr, hd⟩ := key
  have hi' := inv_run cfg _ s s' hi hr
  exact ⟨n, s', hn, hr, hd, by rw [hi'.sig, hd]; rfl, by rw [hi'.sock, hd]; rfl⟩

/-- from the moment somebody has won the Once (is inside the body of `closeOnce.Do`, or through) there is a schedule
that ends with R, W and D exited: first the body (never blocked), then `can_always_finish` -/
theorem close_leads_to_exit (cfg : Cfg) (acts0 : List Act) (s : St) (h0 : run cfg (init cfg) acts0 = some s)
    (hh : s.once ≠ .free) : ∃ acts s', run cfg s acts = some s' ∧ allExited s' := by
  have hi := inv_reach cfg acts0 s h0
  cases ho : s.once with
  | free => exact absurd ho hh
  | done =>
    have hc : s.closeSig = true := by rw [hi.sig, ho]; rfl
    have hk : s.sockClosed = true := by rw [hi.sock, ho]; rfl
    exact can_always_finish cfg s hi hc hk
  | held who b =>
    obtain ⟨n, s1, _, hr1, _, hc, hk⟩ := close_completes cfg s hi (by simp [ho, holder])
    obtain ⟨acts, s', hr2, hx⟩ := can_always_finish cfg s1 (inv_run cfg _ s s1 hi hr1) hc hk
    exact ⟨List.replicate n .body ++ acts, s', ((isRunV _ cfg).append _ _ s s').mpr ⟨s1, hr1, hr2⟩, hx⟩

/-! ### non-vacuity: concrete schedules of the code -/

/-- tcp, both queues of size 2 -/
def cfgT : Cfg := { pcap := 2, wcap := 2, ws := false }
def cfgW : Cfg := { pcap := 2, wcap := 2, ws := true }

/-- an external Close: call, closed() test, Once taken, the four operations of the body -/
def xClose (i : Nat) : List Act := [.xCall i, .xCloseTest i, .xCloseOnce i, .body, .body, .body, .body]

/-- traffic in both directions, then the reader waits in Read and the writer in a Write to a stalled peer -/
def demoTraffic : List Act :=
  [.dStart, .send false, .wTop, .wSelRecv, .wWriteOk false,         -- handshake written
   .peerSend, .rTop, .rReadData 2 false, .rAdd, .rAdd, .rDecoded,   -- a chunk with two frames
   .dSelRecv, .dHandled,                                            -- one delivered, one queued
   .rTop,                                                           -- R: in Read, nothing to read
   .peerStall, .send false, .wTop, .wSelRecv]                       -- W: in Write, the peer does not read

/-- before the Close both are blocked: no reader step and no writer step is enabled -/
example : (run cfgT (init cfgT) demoTraffic).map
    (fun s => (s.r, s.w, (step cfgT s .rReadErr).isSome, (step cfgT s (.rReadData 1 false)).isSome,
      (step cfgT s (.wWriteOk false)).isSome || (step cfgT s .wWriteErr).isSome)) =
    some (.inRead, .inWrite, false, false, false) := by decide

/-- an external caller closes: signal, socket; the Read and the Write return errors, R and W leave through their own
(nested, no-op) Close; the callbacks run; D drains the queued packet, reports the close and leaves -/
def demoClose : List Act :=
  demoTraffic ++ [.xCall 7, .xCloseTest 7, .xCloseOnce 7, .body, .body,
    .rReadErr, .wWriteErr, .rCloseTest, .wCloseTest, .body, .body,
    .dSelClose, .dDrain, .dHandled, .dDrain, .dFinal]

example : (run cfgT (init cfgT) demoClose).map (fun s => (s.r, s.w, s.d)) = some (.exited, .exited, .exited) := by
  decide
example : (run cfgT (init cfgT) demoClose).map (fun s => (s.once, s.closeSig, s.sockClosed)) =
    some (.done, true, true) := by decide
example : (run cfgT (init cfgT) demoClose).map (fun s => (s.sigCloses, s.sockCloses, s.closeCallbacks)) =
    some (1, 1, 1) := by decide
example : (run cfgT (init cfgT) demoClose).map (fun s => (s.finalReports, s.delivered, s.closeReturns)) =
    some (1, 2, 1) := by decide

/-- the reader (EOF), the writer (write error) and a third goroutine call Close at once, all past the `closed()`
test before anybody closes: R wins the Once, the two others WAIT at the Once (no step) until the body is done, then
return; everything is done once -/
def demoRace : List Act :=
  [.rTop, .peerClose, .rReadErr, .send false, .wTop, .wSelRecv, .wWriteErr, .xCall 0,
   .rCloseTest, .wCloseTest, .xCloseTest 0, .rCloseOnce]

example : (run cfgT (init cfgT) demoRace).map
    (fun s => (s.once, (step cfgT s .wCloseOnce).isSome, (step cfgT s (.xCloseOnce 0)).isSome)) =
    some (.held .r .sig, false, false) := by decide
example : (run cfgT (init cfgT) (demoRace ++ [.body, .body, .body])).map
    (fun s => (s.once, (step cfgT s .wCloseOnce).isSome, (step cfgT s (.xCloseOnce 0)).isSome)) =
    some (.held .r .rel, false, false) := by decide
example : (run cfgT (init cfgT) (demoRace ++ [.body, .body, .body, .body, .wCloseOnce, .xCloseOnce 0])).map
    (fun s => (s.r, s.w, s.ext 0)) = some (.exited, .exited, .idle) := by decide
example : (run cfgT (init cfgT) (demoRace ++ [.body, .body, .body, .body, .wCloseOnce, .xCloseOnce 0])).map
    (fun s => (s.sigCloses, s.sockCloses, s.closeCallbacks)) = some (1, 1, 1) := by decide

/-- WebSocket writer: a frame taken from the queue just before the close is not written (closed() after the select) -/
example : (run cfgW (init cfgW) ([.dStart, .send false, .wSelRecv, .rTop] ++ xClose 3 ++
      [.wChk, .rReadErr, .rCloseTest, .dSelClose, .dDrain, .dFinal])).map (fun s => (s.r, s.w, s.d)) =
    some (.exited, .exited, .exited) := by decide

/-- OnPacket called after the connection is already closed (the peer hung up at once): D starts, finds nothing,
reports the close, leaves -/
example : (run cfgT (init cfgT) [.peerClose, .rTop, .rReadErr, .rCloseTest, .rCloseOnce, .body, .body, .body, .body,
      .wTop, .dStart, .dSelClose, .dDrain, .dFinal]).map (fun s => (s.r, s.w, s.d, s.finalReports)) =
    some (.exited, .exited, .exited, 1) := by decide

/-! ### negative results: each of the four guards is necessary -/

/-- (a) if `addPacket` waited for room (`case conn.packetCh <- p` without `default`): the connection is closed (signal,
socket, callbacks, final report: all done), the dispatcher has left, the queue is full — and the reader sits in `addPacket`
with a frame in hand and NO enabled step (`strandedA_no_step`), in every state of every continuation (`strandedA_step`): it
never exits.  `demoA` gets there (`C16.conn_blocking_addPacket_strands_reader`); for the code the same schedule continues
with `rAdd` = drop, `rDecoded`, `rTop` → exited. -/
abbrev strandedA (cfg : Cfg) (k : Nat) (b : Bool) (s : St) : Prop :=
  s.r = .decode (k+1) b ∧ s.closeSig = true ∧ s.sockClosed = true ∧ s.once = .done ∧ s.d = .exited ∧ s.pq = cfg.pcap

theorem strandedA_no_step {cfg : Cfg} {k : Nat} {b : Bool} {s : St} (h : strandedA cfg k b s) (a : Act) (ha : isR a = true) :
    stepV .blockingAdd cfg s a = none := by
  obtain ⟨hp, -, -, -, -, hq⟩ := h
  cases a <;> simp [isR] at ha <;> simp [stepV, hp, hq]

theorem strandedA_step (cfg : Cfg) (k : Nat) (b : Bool) (s : St) (a : Act) (s' : St) (h : strandedA cfg k b s)
    (hs : stepV .blockingAdd cfg s a = some s') : strandedA cfg k b s' := by
  revert hs
  fun_cases stepV .blockingAdd cfg s a <;> rintro ⟨⟩ <;> simp_all [strandedA]

/-- the schedule: a chunk with two frames is read; an external Close; D finds the queue empty, reports, leaves; R
hands over its first frame (the queue of size 1 is now full for ever) -/
def demoA : List Act :=
  [.dStart, .peerSend, .rTop, .rReadData 2 false] ++ xClose 0 ++ [.dSelClose, .dDrain, .dFinal, .rAdd]
def cfgA : Cfg := { pcap := 1, wcap := 2, ws := false }

/-- the same schedule on the code: the second frame is dropped with a warning and the reader exits -/
example : (run cfgA (init cfgA) (demoA ++ [.rAdd, .rDecoded, .rTop])).map (fun s => (s.r, s.dropped, s.pq)) =
    some (.exited, 1, 1) := by decide

/-- (b) if `Close` did not close the socket: after a complete Close (Once done, signal set, callbacks run) the reader
sits in `Read` with NO enabled step, and stays so in every continuation in which the peer does nothing — its exit is at the
mercy of the peer (`C16.conn_close_without_socket_strands_reader`, after `demoB`).  For the code `rReadErr` is enabled in the
same situation: `reader_in_read_unblocked`. -/
abbrev strandedB (s : St) : Prop :=
  s.r = .inRead ∧ s.closeSig = true ∧ s.once = .done ∧ s.closeCallbacks = 1 ∧ s.sockClosed = false ∧ s.avail = 0 ∧
  s.peerClosed = false

theorem strandedB_no_step {cfg : Cfg} {s : St} (h : strandedB s) (a : Act) (ha : isR a = true) :
    stepV .keepSocket cfg s a = none := by
  obtain ⟨hp, -, -, -, hk, hav, hpc⟩ := h
  cases a <;> simp [isR] at ha <;> simp [stepV, hp, hk, hav, hpc]

theorem strandedB_step (cfg : Cfg) (s : St) (a : Act) (s' : St) (h : strandedB s) (hpeer : isPeer a = false)
    (hs : stepV .keepSocket cfg s a = some s') : strandedB s' := by
  revert hs
  fun_cases stepV .keepSocket cfg s a <;> rintro ⟨⟩ <;> simp_all [strandedB, isPeer]

def demoB : List Act := [.rTop] ++ xClose 0

/-- (c) if the writer's select had no `case <-conn.closeCh` (ws_conn.go: `select { case b = <-conn.writeCh: }`): after
a complete Close the writer sits at its select on the empty writeCh with NO enabled step, and stays so in every
continuation that does not contain a sender which tested `closed()` before the close (all later senders are refused:
`fresh_sender_refused`) — nothing will ever wake it (`C16.conn_writer_without_close_case_strands`, after `xClose 0`). -/
abbrev strandedC (cfg : Cfg) (s : St) : Prop :=
  s.w = .sel ∧ s.closeSig = true ∧ s.sockClosed = true ∧ s.once = .done ∧ cfg.ws = true ∧ s.wq = 0

theorem strandedC_no_step {cfg : Cfg} {s : St} (h : strandedC cfg s) (a : Act) (ha : isW a = true) :
    stepV .noCloseCase cfg s a = none := by
  obtain ⟨hp, hc, -, -, hws, hq⟩ := h
  cases a <;> simp [isW] at ha <;> simp [stepV, hp, hc, hq, hws]

theorem strandedC_step (cfg : Cfg) (s : St) (a : Act) (s' : St) (h : strandedC cfg s) (hst : a ≠ .send true)
    (hs : stepV .noCloseCase cfg s a = some s') : strandedC cfg s' := by
  revert hs
  fun_cases stepV .noCloseCase cfg s a <;> rintro ⟨⟩ <;> simp_all [strandedC]

/-- (d) if the dispatcher's select had no `case <-conn.closeCh` (`for p := range / <-conn.packetCh` only): after a
complete Close and the reader's exit the dispatcher sits at its select on the empty packetCh with NO enabled step, in every
state of every continuation; the final error is never reported (`C16.conn_dispatcher_without_close_case_strands`, after
`demoD`). -/
abbrev strandedD (s : St) : Prop :=
  s.d = .sel ∧ s.finalReports = 0 ∧ s.closeSig = true ∧ s.sockClosed = true ∧ s.once = .done ∧ s.r = .exited ∧ s.pq = 0

def demoD : List Act := [.dStart, .rTop] ++ xClose 0 ++ [.rReadErr, .rCloseTest]

theorem strandedD_no_step {cfg : Cfg} {s : St} (h : strandedD s) (a : Act) (ha : isD a = true) :
    stepV .dNoCloseCase cfg s a = none := by
  obtain ⟨hp, -, -, -, -, -, hq⟩ := h
  cases a <;> simp [isD] at ha <;> simp [stepV, hp, hq]

theorem strandedD_step (cfg : Cfg) (s : St) (a : Act) (s' : St) (h : strandedD s)
    (hs : stepV .dNoCloseCase cfg s a = some s') : strandedD s' := by
  revert hs
  fun_cases stepV .dNoCloseCase cfg s a <;> rintro ⟨⟩ <;> simp_all [strandedD]

/-- the tcp writer would survive the same omission: its ticker brings it back to the `closed()` test at the loop head -/
example : (runV .noCloseCase cfgT (init cfgT) ([.wTop] ++ xClose 0 ++ [.wSelTick, .wTop])).map (fun s => s.w) =
    some .exited := by decide

end OAP.ConnThreads
