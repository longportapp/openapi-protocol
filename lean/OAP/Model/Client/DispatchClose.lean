/-
C13, the close path of the dispatcher: the queue is DRAINED before the close is reported.

Go code mirrored (tcp_conn.go / ws_conn.go, identical in both transports):

  dispatcher (`OnPacket`)                         reader (`reading` → `readPacket` → `addPacket`)
    for { select {                                  for { if conn.closed() { return }
      case <-conn.closeCh:                                n, err := Read(buf) …
        for { select {                                    for each frame decoded from buf: addPacket(p) }
          case p := <-conn.packetCh: fn(p, nil); continue
          default: }                              addPacket: select { case packetCh <- p:
          break }                                                     default: warn "drop packet for channel full" }
        fn(nil, errConnClosed); return
      case p := <-conn.packetCh: fn(p, nil) } }

* `addPacket` does NOT look at `closeCh`, and the reader tests `closed()` only at the top of its loop: frames decoded
  from a chunk that was read before the close (or between `close(closeCh)` and `conn.conn.Close()`) are enqueued — or
  dropped with a warning when the queue is full — exactly as before the close. So `recv` is unchanged by `close`;
  the packets received after the close are recorded in the ghost lists `late` / `lateAccepted`.
* after the close the outer `select` may still choose the `packetCh` case (both ready): `dispatch` stays enabled until
  `finish`; `drain` is the same delivery inside the drain loop.
* the drain loop ends at the first moment the queue is observed empty (`default:`): `finish` is enabled whenever
  closed ∧ queue empty; after it the dispatcher goroutine has returned, nothing is delivered any more, but the reader
  may still enqueue: such a packet stays in the queue for ever, WITHOUT a warning (`late_packet_stranded`).
* `Close` is idempotent (`closed()` test + `closeOnce`): a second `close` changes nothing.
-/
import OAP.Model.Client.Dispatch
import OAP.LTS
namespace OAP.DispatchClose
open OAP.Dispatch

structure St where
  queue : List Pkt            -- packetCh, oldest first
  log : List (Nat × Pkt)      -- handler invocations so far
  closed : Bool               -- closeCh is closed
  finished : Bool             -- the dispatcher has left the drain loop: close reported (`fn(nil, errConnClosed)`), goroutine gone
  warnings : Nat              -- "drop packet for channel full"
  taken : List Pkt            -- ghost: packets the dispatcher took out of the queue, in order
  accepted : List Pkt         -- ghost: packets that entered the queue, in order
  dropped : List Pkt          -- ghost: packets dropped because the queue was full
  received : List Pkt         -- ghost: everything the reader decoded, in order
  acceptedAtClose : List Pkt  -- ghost: value of `accepted` at the (first) close action
  late : List Pkt             -- ghost: packets the reader decoded after the close, in order
  lateAccepted : List Pkt     -- ghost: those of `late` that entered the queue

inductive Act
  | recv (p : Pkt)            -- reader decoded p: addPacket (before or after the close, before or after finish)
  | dispatch                  -- dispatcher, outer select, case packetCh
  | close                     -- conn.Close: close(closeCh)
  | drain                     -- dispatcher, drain loop, case packetCh
  | finish                    -- dispatcher, drain loop, default: report the close and return

def step (cap : Nat) (subs : Nat → List Nat) (s : St) : Act → Option St
  | .recv p =>
      if s.queue.length < cap then
        some { s with queue := s.queue ++ [p], accepted := s.accepted ++ [p], received := s.received ++ [p],
                      late := if s.closed then s.late ++ [p] else s.late,
                      lateAccepted := if s.closed then s.lateAccepted ++ [p] else s.lateAccepted }
      else
        some { s with warnings := s.warnings + 1, dropped := s.dropped ++ [p], received := s.received ++ [p],
                      late := if s.closed then s.late ++ [p] else s.late }
  | .dispatch =>
      if s.finished then none else
      match s.queue with
      | [] => none
      | p :: q => some { s with queue := q, log := s.log ++ invocations subs p, taken := s.taken ++ [p] }
  | .close =>
      if s.closed then some s else some { s with closed := true, acceptedAtClose := s.accepted }
  | .drain =>
      if s.closed && !s.finished then
        match s.queue with
        | [] => none
        | p :: q => some { s with queue := q, log := s.log ++ invocations subs p, taken := s.taken ++ [p] }
      else none
  | .finish =>
      if s.closed && !s.finished && s.queue.isEmpty then some { s with finished := true } else none

def init : St :=
  { queue := [], log := [], closed := false, finished := false, warnings := 0, taken := [], accepted := [],
    dropped := [], received := [], acceptedAtClose := [], late := [], lateAccepted := [] }

def run (cap : Nat) (subs : Nat → List Nat) : St → List Act → Option St
  | s, [] => some s
  | s, a :: as => (step cap subs s a).bind (fun s' => run cap subs s' as)

theorem isRun (cap : Nat) (subs : Nat → List Nat) : LTS.IsRun (step cap subs) (run cap subs) :=
  ⟨fun _ => rfl, fun _ _ _ => rfl⟩

/-- forget the close bookkeeping: the state of the `Dispatch` view (its invariant carries over: `dinv_carries_over`) -/
def toDispatch (s : St) : Dispatch.St :=
  { queue := s.queue, log := s.log, accepted := s.accepted, warnings := s.warnings, dropped := s.dropped,
    received := s.received }

structure CInv (subs : Nat → List Nat) (s : St) : Prop where
  split : s.accepted = s.taken ++ s.queue
  logged : s.log = s.taken.flatMap (invocations subs)
  warn : s.warnings = s.dropped.length
  acct : s.received.length = s.accepted.length + s.dropped.length
  open_ : s.closed = false → s.late = [] ∧ s.lateAccepted = [] ∧ s.finished = false
  closedAcc : s.closed = true → s.accepted = s.acceptedAtClose ++ s.lateAccepted
  lateSuffix : ∃ r0, s.received = r0 ++ s.late
  lateSub : s.lateAccepted.Sublist s.late
  fin : s.finished = true → ∃ x, s.taken = s.acceptedAtClose ++ x

theorem cinv_init (subs : Nat → List Nat) : CInv subs init := by
  refine ⟨?_, ?_, ?_, ?_, ?_, ?_, ⟨[], ?_⟩, ?_, ?_⟩ <;> simp [init]

/-- shape of the proof: head of `OAP/LTS.lean`; `split`, because `recv` writes `if s.closed …` into two fields -/
theorem cinv_step (cap : Nat) (subs : Nat → List Nat) (s : St) (a : Act) (s' : St)
    (i : CInv subs s) (hs : step cap subs s a = some s') : CInv subs s' := by
  revert hs
  fun_cases step cap subs s a <;> rintro ⟨⟩ <;> (try split) <;>
    (constructor
     case split => first | with_reducible exact i.split | (have := i.split; intros; grind)
     case logged => first | with_reducible exact i.logged | (have := i.logged; intros; grind)
     case warn => first | with_reducible exact i.warn | (have := i.warn; intros; grind)
     case acct => first | with_reducible exact i.acct | (have := i.acct; intros; grind)
     case open_ => first | with_reducible exact i.open_ | (intros; grind)
     case closedAcc => first | with_reducible exact i.closedAcc | (have := i.open_; have := i.closedAcc; intros; grind)
     case lateSuffix =>    -- `grind` does not find the witness: the old one, or all of `received` before the close, when nothing is late
       obtain ⟨r0, h⟩ := i.lateSuffix
       first
       | exact ⟨r0, h⟩
       | (refine ⟨r0, ?_⟩; simp [h]; done)
       | (rw [(i.open_ (by simpa using ‹¬s.closed = true›)).1]; exact ⟨_, (List.append_nil _).symm⟩)
     case lateSub => first | with_reducible exact i.lateSub | (have := i.lateSub; intros; grind)
     case fin => first | with_reducible exact i.fin | (have := i.split; have := i.open_; have := i.closedAcc; intros; grind))

theorem cinv_reach (cap : Nat) (subs : Nat → List Nat) (acts : List Act) (s : St)
    (h : run cap subs init acts = some s) : CInv subs s :=
  (isRun cap subs).inv (cinv_step cap subs) acts init s (cinv_init subs) h

/-- the view of `Dispatch` is refined: in every interleaving — with close, drain and finish — its invariant `DInv` holds -/
theorem dinv_carries_over (cap : Nat) (subs : Nat → List Nat) (acts : List Act) (s : St)
    (h : run cap subs init acts = some s) : DInv subs (toDispatch s) :=
  have i := cinv_reach cap subs acts s h
  ⟨⟨s.taken, i.split, i.logged⟩, i.warn, i.acct⟩

theorem closed_step (cap : Nat) (subs : Nat → List Nat) (s : St) (a : Act) (s' : St) (hc : s.closed = true)
    (hs : step cap subs s a = some s') : s'.closed = true ∧ s'.acceptedAtClose = s.acceptedAtClose := by
  revert hs
  fun_cases step cap subs s a <;> rintro ⟨⟩ <;> first | exact ⟨hc, rfl⟩ | contradiction

/-- the ghost is exact: if the run is `pre`, then the (first, effective) `close`, then `post`, `acceptedAtClose` of
the final state is the list of packets accepted during `pre` -/
theorem acceptedAtClose_exact (cap : Nat) (subs : Nat → List Nat) (pre post : List Act) (s1 s : St)
    (h1 : run cap subs init pre = some s1) (hopen : s1.closed = false)
    (h : run cap subs init (pre ++ .close :: post) = some s) : s.acceptedAtClose = s1.accepted := by
  rw [(isRun cap subs).append] at h
  obtain ⟨s1', h1', h2⟩ := h
  rw [h1] at h1'; cases h1'
  obtain ⟨s2, hs2, hr⟩ := (isRun cap subs).cons_some h2
  simp [step, hopen] at hs2; subst hs2
  exact ((isRun cap subs).inv (I := fun x => x.closed = true ∧ x.acceptedAtClose = s1.accepted)
    (fun x a x' hx hxs => (closed_step cap subs x a x' hx.1 hxs).imp id (·.trans hx.2)) post _ s ⟨rfl, rfl⟩ hr).2

/-- In EVERY interleaving, in every state in which the dispatcher has reported the
close (`finish` has happened), the handler log is the routing of ALL packets accepted before the close — however many
of them were still queued at the close — in arrival order, followed by the routing of the packets `x` that were
accepted after the close and still caught by the drain loop. The only accepted packets that are not delivered are
those still in the queue, and every one of them arrived after the close (`lateAccepted = x ++ queue`). -/
theorem drained_before_close_report (cap : Nat) (subs : Nat → List Nat) (acts : List Act) (s : St)
    (h : run cap subs init acts = some s) (hf : s.finished = true) :
    ∃ x, s.log = (s.acceptedAtClose ++ x).flatMap (invocations subs) ∧
      s.accepted = s.acceptedAtClose ++ x ++ s.queue ∧ s.lateAccepted = x ++ s.queue := by
  have i := cinv_reach cap subs acts s h
  obtain ⟨x, hx⟩ := i.fin hf
  have hc : s.closed = true := by
    cases hc : s.closed with
    | true => rfl
    | false => have := (i.open_ hc).2.2; simp [hf] at this
  have hacc : s.accepted = s.acceptedAtClose ++ x ++ s.queue := by rw [i.split, hx]
  refine ⟨x, by rw [i.logged, hx], hacc, ?_⟩
  have := i.closedAcc hc
  rw [hacc, List.append_assoc] at this
  exact (List.append_cancel_left this).symm

/-- `drained_before_close_report` as a statement about the log alone: the routing of everything accepted before the close is a prefix of the
log -/
theorem drained_prefix (cap : Nat) (subs : Nat → List Nat) (acts : List Act) (s : St)
    (h : run cap subs init acts = some s) (hf : s.finished = true) :
    s.acceptedAtClose.flatMap (invocations subs) <+: s.log := by
  obtain ⟨x, hx, _, _⟩ := drained_before_close_report cap subs acts s h hf
  exact ⟨x.flatMap (invocations subs), by rw [hx, List.flatMap_append]⟩

theorem finished_step (cap : Nat) (subs : Nat → List Nat) (s : St) (a : Act) (s' : St) (hf : s.finished = true)
    (hs : step cap subs s a = some s') : s'.finished = true ∧ s'.log = s.log ∧ s'.taken = s.taken := by
  revert hs
  fun_cases step cap subs s a <;> rintro ⟨⟩ <;> first | exact ⟨hf, rfl, rfl⟩ | simp_all

/-- From a state in which the dispatcher has finished, no continuation whatsoever
changes the handler log (nor the list of taken packets); `dispatch`, `drain` and `finish` are not enabled any more -/
theorem no_delivery_after_finish (cap : Nat) (subs : Nat → List Nat) (acts : List Act) : ∀ (s s' : St),
    s.finished = true → run cap subs s acts = some s' →
    s'.finished = true ∧ s'.log = s.log ∧ s'.taken = s.taken := by
  intro s s' hf hr
  refine (isRun cap subs).inv (I := fun x => x.finished = true ∧ x.log = s.log ∧ x.taken = s.taken) ?_ acts s s' ⟨hf, rfl, rfl⟩ hr
  intro x a x' ⟨f, l, t⟩ hx
  obtain ⟨f1, l1, t1⟩ := finished_step cap subs x a x' f hx
  exact ⟨f1, l1.trans l, t1.trans t⟩

/-- `no_delivery_after_finish` for runs from `init`: whatever follows a `finish`, the log is the log at the `finish` -/
theorem log_frozen_at_finish (cap : Nat) (subs : Nat → List Nat) (pre post : List Act) (s : St)
    (h : run cap subs init (pre ++ .finish :: post) = some s) :
    ∃ s1, run cap subs init (pre ++ [.finish]) = some s1 ∧ s.log = s1.log := by
  have : pre ++ .finish :: post = (pre ++ [.finish]) ++ post := by simp
  rw [this, (isRun cap subs).append] at h
  obtain ⟨s1, h1, h2⟩ := h
  refine ⟨s1, h1, (no_delivery_after_finish cap subs post s1 s ?_ h2).2.1⟩
  rw [(isRun cap subs).append] at h1
  obtain ⟨s0, _, h0⟩ := h1
  simp only [run, step] at h0
  split at h0
  · simp at h0; subst h0; rfl
  · simp at h0

/-- Loss accounting with close, for every reachable state: every received packet was accepted or dropped with a
warning; the packets received after the close are the suffix `late` of `received`, of which `lateAccepted` (a
sublist, in order) entered the queue and the others were dropped with a warning like any overflow; accepted = taken
by the dispatcher ++ still queued; after the close, accepted = accepted before the close ++ `lateAccepted`. -/
theorem loss_accounting_close (cap : Nat) (subs : Nat → List Nat) (acts : List Act) (s : St)
    (h : run cap subs init acts = some s) :
    s.received.length = s.accepted.length + s.dropped.length ∧ s.warnings = s.dropped.length ∧
    s.accepted = s.taken ++ s.queue ∧ s.log = s.taken.flatMap (invocations subs) ∧
    (∃ r0, s.received = r0 ++ s.late) ∧ s.lateAccepted.Sublist s.late ∧
    (s.closed = false → s.late = [] ∧ s.lateAccepted = []) ∧
    (s.closed = true → s.accepted = s.acceptedAtClose ++ s.lateAccepted) := by
  have i := cinv_reach cap subs acts s h
  exact ⟨i.acct, i.warn, i.split, i.logged, i.lateSuffix, i.lateSub, fun hc => ⟨(i.open_ hc).1, (i.open_ hc).2.1⟩,
    i.closedAcc⟩

/-- The accounting at the end: once the dispatcher has finished, every received packet is exactly one of: delivered (taken and
routed), dropped with a warning, or stranded in the queue — and the stranded ones all arrived after the close -/
theorem final_accounting (cap : Nat) (subs : Nat → List Nat) (acts : List Act) (s : St)
    (h : run cap subs init acts = some s) (hf : s.finished = true) :
    s.received.length = s.taken.length + s.warnings + s.queue.length ∧
    s.log = s.taken.flatMap (invocations subs) ∧
    (∃ x, s.lateAccepted = x ++ s.queue) ∧ s.lateAccepted.Sublist s.late := by
  have i := cinv_reach cap subs acts s h
  obtain ⟨x, _, _, hx⟩ := drained_before_close_report cap subs acts s h hf
  refine ⟨?_, i.logged, ⟨x, hx⟩, i.lateSub⟩
  have := i.acct
  rw [i.split, List.length_append, ← i.warn] at this
  omega

private def subs0 : Nat → List Nat := fun c => if c = 10 then [1, 2] else []
private def p1 : Pkt := ⟨.push, 10, 1⟩
private def p2 : Pkt := ⟨.push, 10, 2⟩
private def p3 : Pkt := ⟨.push, 10, 3⟩

/-- three packets queued at the close: all three are delivered (to both handlers, in order) before `finish` -/
theorem three_queued_at_close_delivered :
    (run 4 subs0 init [.recv p1, .recv p2, .recv p3, .close, .drain, .drain, .drain, .finish]).map
      (fun s => (s.log, s.queue, s.finished, s.acceptedAtClose)) =
    some ([(1, p1), (2, p1), (1, p2), (2, p2), (1, p3), (2, p3)], [], true, [p1, p2, p3]) := by decide

/-- `finish` is not enabled while packets are queued: the close cannot be reported before the queue is drained -/
theorem finish_needs_empty_queue :
    (run 4 subs0 init [.recv p1, .recv p2, .recv p3, .close, .drain, .finish]).isNone = true := by decide

/-- the limit of the guarantee: a packet the reader enqueues after the dispatcher has left the drain loop is accepted
(no warning) and never delivered. (In the Go code: frames still being decoded by `readPacket` from a chunk read
before the close.) So "the only loss is the counted overflow" holds for the packets accepted BEFORE the close — for
the late ones it does not. -/
theorem late_packet_stranded :
    (run 4 subs0 init [.recv p1, .close, .drain, .finish, .recv p2]).map
      (fun s => (s.log, s.queue, s.warnings, s.finished, s.late)) =
    some ([(1, p1), (2, p1)], [p2], 0, true, [p2]) := by decide

/-- a late packet that arrives before the drain loop ends IS still delivered -/
theorem late_packet_caught_by_drain :
    (run 4 subs0 init [.recv p1, .close, .recv p2, .drain, .drain, .finish]).map
      (fun s => (s.log, s.queue, s.acceptedAtClose, s.lateAccepted)) =
    some ([(1, p1), (2, p1), (1, p2), (2, p2)], [], [p1], [p2]) := by decide

end OAP.DispatchClose
