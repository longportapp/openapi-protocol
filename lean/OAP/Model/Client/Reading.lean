/-
C03 (TCP transport): how the connection's reader goroutine uses the streaming decoder.

Go code mirrored (go/client/tcp_conn.go, `(*tcpConn).reading` and `readPacket`):

  func (conn *tcpConn) reading() {                          func (conn *tcpConn) readPacket(buf) error {
    for {                                                     for {
      if conn.closed() { return }                               packet, done, err := conn.p.Unpack(conn.qctx, buf)
      n, err := conn.conn.Read(conn.buf)                        if err != nil { return err }
      if err != nil { conn.Close(err); return }                 if !done { break }
      if n == 0 { continue }                                    conn.addPacket(packet)
      if conn.readBuf.Length() == 0 {                         }
        buffer := ringbuffer.NewWithData(conn.buf[:n])        return nil
        if err = conn.readPacket(buffer); err != nil {      }
          conn.Close(err); return }
        if buffer.Length() > 0 {
          first, _ := buffer.PeekAll()
          conn.readBuf.Write(first) }
      } else {
        conn.readBuf.Write(conn.buf[:n])
        if err = conn.readPacket(conn.readBuf); err != nil {
          conn.Close(err); return }
      } } }

* the reader does NOT write every socket read into one ring. When the left-over ring `conn.readBuf`
  is empty (`Length() == 0`) the chunk is decoded IN PLACE: `NewWithData` wraps `conn.buf[:n]`
  as a ring that is full (r = w = 0, isEmpty = false, size = n), the decoder loop runs on it, and
  what it leaves is copied into `conn.readBuf` — but only the FIRST of the two slices `PeekAll`
  returns (`first, _ :=`). Otherwise the chunk is `Write`-n behind the left-over bytes and the loop
  runs on `conn.readBuf`.
* the decoder context `conn.qctx` — the parked header `pend` — is shared by both paths: a header
  (or its first byte) parked while decoding the temporary ring belongs to bytes whose continuation
  ends up in `conn.readBuf`, and the other way round.
* an `Unpack` error closes the connection and the goroutine returns: nothing is read any more, the
  left-over of the temporary ring is NOT saved (`stopped`).
* `readPacket` passes the context on from call to call; the loop is unbounded in Go. Here it is
  given fuel `Length() + 2` (one call may deliver a packet without taking a byte off the ring when
  it resumes a parked complete header; every later packet takes at least a header; one last call
  reports "need more data" or the error); `OAP/Proofs/Reading.lean` proves that on a well-formed
  ring the fuel never runs out (`readPacket_eq_drainRing`: the loop is the project's `drainRing`,
  which `drainRing_abs` relates to the queue loop `drain` that has no fall-back result at all).
* value semantics: `conn.buf[:n]`, the temporary ring and `first` alias the same array in Go; the
  copy into `conn.readBuf` happens before the next socket read overwrites `conn.buf`, and `Unpack`
  copies body / metadata / signature out of the ring (`Read` into fresh slices), so the aliasing is
  not observable by the decoder. It is not modelled.
-/
import OAP.Model.Ring
import OAP.Model.Stream
namespace OAP.Reading
open OAP OAP.Frame

/-- what `readPacket` leaves behind: the packets handed to `addPacket` in order, how the loop ended
(`.more`: `return nil`; `.err e`: `return err`; `.panic w`: the goroutine panics), the header
parked in `conn.qctx`, the ring.
(The same tuple type as `drainRing`'s result in OAP/Proofs/StreamRing.lean.) -/
abbrev RPOut := List Packet × SRes × Option Header × Ring

/-- the loop of `readPacket` with `fuel` calls of `Unpack` left -/
def readPacketLoop (v : Ver) (gz : GzOracle) (codec : UInt8) : Nat → Option Header → Ring → RPOut
  | 0, pend, rb => ([], (.panic "readPacket: out of fuel", pend, rb))   -- unreachable: `readPacket_eq_drainRing`
  | fuel + 1, pend, rb =>
    let o := unpackRing v gz codec pend rb
    match o.res with
    | .pkt k =>                                       -- done: addPacket(packet), next iteration
      let r := readPacketLoop v gz codec fuel o.pend o.rb
      (k :: r.1, r.2)
    | s => ([], (s, o.pend, o.rb))                    -- !done → break; err → return err

/-- `conn.readPacket(buf)` with the context holding `pend` -/
def readPacket (v : Ver) (gz : GzOracle) (codec : UInt8) (pend : Option Header) (rb : Ring) : RPOut :=
  readPacketLoop v gz codec (rb.length + 2) pend rb

/-- the reader goroutine's state -/
structure RSt where
  /-- `conn.readBuf`: the left-over ring -/
  readBuf : Ring
  /-- the header parked in `conn.qctx` -/
  pend : Option Header := none
  /-- the packets handed to `addPacket` so far, oldest first -/
  pkts : List Packet := []
  /-- `some e`: `readPacket` failed with `e`, `conn.Close(err)` was called and the goroutine returned -/
  stopped : Option SRes := none

/-- which branch a socket read takes (for the examples) -/
inductive Path where
  | returned   -- the goroutine has returned already
  | skip       -- n == 0 → continue
  | fast       -- readBuf empty: decode the chunk in place
  | slow       -- write behind the left-over
  deriving Repr, DecidableEq

def pathOf (s : RSt) (chunk : Bytes) : Path :=
  match s.stopped with
  | some _ => .returned
  | none =>
    if chunk.length = 0 then .skip
    else if s.readBuf.length = 0 then .fast else .slow

/-- one iteration of the `for` loop of `reading` in which `conn.conn.Read` returned `chunk` -/
def readStep (v : Ver) (gz : GzOracle) (codec : UInt8) (s : RSt) (chunk : Bytes) : RSt :=
  match s.stopped with
  | some _ => s                                            -- the goroutine has returned
  | none =>
    if chunk.length = 0 then s                             -- n == 0 → continue
    else if s.readBuf.length = 0 then
      -- fast path: buffer := ringbuffer.NewWithData(conn.buf[:n])
      let buffer := Ring.newWithData chunk
      let o := readPacket v gz codec s.pend buffer
      match o.2.1 with
      | .more =>                                           -- readPacket returned nil
        let buffer := o.2.2.2
        { readBuf := if buffer.length > 0 then s.readBuf.write buffer.peekAll.1   -- first, _ := buffer.PeekAll()
                     else s.readBuf,
          pend := o.2.2.1, pkts := s.pkts ++ o.1, stopped := none }
      | e =>                                               -- conn.Close(err); return
        { readBuf := s.readBuf, pend := o.2.2.1, pkts := s.pkts ++ o.1, stopped := some e }
    else
      -- slow path: conn.readBuf.Write(conn.buf[:n]); readPacket(conn.readBuf)
      let o := readPacket v gz codec s.pend (s.readBuf.write chunk)
      { readBuf := o.2.2.2, pend := o.2.2.1, pkts := s.pkts ++ o.1,
        stopped := if o.2.1 = .more then none else some o.2.1 }

/-- the reader goroutine over the successive results of `conn.conn.Read`, from `conn.readBuf = rb0`
(`dialTCPConn`: `ringbuffer.New(o.ReadBufferSize)`, i.e. `Ring.new cap`) and a fresh context -/
def reading (v : Ver) (gz : GzOracle) (codec : UInt8) (rb0 : Ring) (chunks : List Bytes) : RSt :=
  chunks.foldl (readStep v gz codec) { readBuf := rb0 }

/-- what the rest of the client sees: the packets delivered, in order, and the error verdict -/
def RSt.obs (s : RSt) : List Packet × Option SRes := (s.pkts, s.stopped)

end OAP.Reading
