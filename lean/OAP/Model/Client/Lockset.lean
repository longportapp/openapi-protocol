/-
C17: the lockset discipline implies happens-before ordering of conflicting accesses, over an abstract
trace model with readers-writer locks (Go memory-model edges).
-/
namespace OAP.Lockset

inductive Op
  | acq (l : Nat) (w : Bool)      -- Lock (w = true) / RLock (w = false) returns
  | rel (l : Nat) (w : Bool)      -- Unlock / RUnlock is called
  | read (x : Nat)
  | write (x : Nat)
deriving DecidableEq, Repr

structure Ev where
  tid : Nat
  op : Op
deriving DecidableEq, Repr

abbrev Trace := List Ev

/-- thread t holds lock l in mode w just before position p -/
def holdsAt (tr : Trace) (t l : Nat) (w : Bool) (p : Nat) : Prop :=
  ∃ a, a < p ∧ tr[a]? = some ⟨t, .acq l w⟩ ∧ ∀ k, a < k → k < p → tr[k]? ≠ some ⟨t, .rel l w⟩

/-- lock semantics: a write holder excludes every other holder -/
def WFLock (tr : Trace) : Prop :=
  ∀ p t u l w w', p ≤ tr.length → holdsAt tr t l w p → holdsAt tr u l w' p → (w = true ∨ w' = true) → t = u

/-- happens-before: program order, and release → later acquire when one side is a write-mode
    operation (Unlock → RLock/Lock, RUnlock → Lock), closed under transitivity -/
inductive HB (tr : Trace) : Nat → Nat → Prop
  | po {i j e e'} : i < j → tr[i]? = some e → tr[j]? = some e' → e.tid = e'.tid → HB tr i j
  | sw {i j t u l w w'} : i < j → tr[i]? = some ⟨t, .rel l w⟩ → tr[j]? = some ⟨u, .acq l w'⟩ →
      (w = true ∨ w' = true) → HB tr i j
  | trans {i j k} : HB tr i j → HB tr j k → HB tr i k

theorem released_between {tr : Trace} {t l : Nat} {w : Bool} {p q : Nat} (h : holdsAt tr t l w p) (hpq : p ≤ q)
    (hn : ¬ holdsAt tr t l w q) : ∃ k, p ≤ k ∧ k < q ∧ tr[k]? = some ⟨t, .rel l w⟩ := by
  obtain ⟨a, ha, hacq, hno⟩ := h
  -- with no release in [p, q) the acquire that witnesses the hold before p witnesses it before q
  apply Classical.byContradiction
  intro hk
  exact hn ⟨a, by omega, hacq, fun k h1 h2 hr => hk ⟨k, Nat.le_of_not_lt fun h3 => hno k h1 h3 hr, h2, hr⟩⟩

def isAccess (o : Op) (x : Nat) : Prop := o = .read x ∨ o = .write x

/-- LOCKSET SOUNDNESS: two accesses by different threads, each made while holding a common lock,
    at least one of the holds in write mode, are ordered by happens-before. -/
theorem lockset_sound (tr : Trace) (wf : WFLock tr) (i j : Nat) (ei ej : Ev) (x : Nat)
    (hij : i < j) (hj : j < tr.length)
    (hei : tr[i]? = some ei) (hej : tr[j]? = some ej) (hne : ei.tid ≠ ej.tid)
    (hai : isAccess ei.op x) (_haj : isAccess ej.op x)
    (l : Nat) (wi wj : Bool) (hw : wi = true ∨ wj = true)
    (hi : holdsAt tr ei.tid l wi i) (hjh : holdsAt tr ej.tid l wj j) :
    HB tr i j := by
  obtain ⟨aj, haj, hacqj, hnoj⟩ := hjh
  -- position i is an access, not an acquire or a release
  have hiop : ∀ t' o, tr[i]? = some ⟨t', o⟩ → isAccess o x := by
    intro t' o h; rw [hei] at h; cases h; exact hai
  -- the later thread acquired after position i: otherwise both hold the lock before i
  have hlt : i < aj := by
    apply Classical.byContradiction
    intro hnot
    have hne' : aj ≠ i := by
      intro e; subst e
      rcases hiop _ _ hacqj with h | h <;> cases h
    exact hne (wf i ei.tid ej.tid l wi wj (by omega) hi
      ⟨aj, by omega, hacqj, fun k h1 h2 => hnoj k h1 (by omega)⟩ hw)
  -- just after that acquire the later thread holds the lock, so the earlier one does not: it released between i and aj
  obtain ⟨k, hk1, hk2, hrel⟩ := released_between hi (by omega : i ≤ aj + 1) fun h =>
    hne (wf (aj + 1) ei.tid ej.tid l wi wj (by omega) h ⟨aj, by omega, hacqj, fun k h1 h2 => by omega⟩ hw)
  have hki : k ≠ i := by
    intro e; subst e
    rcases hiop _ _ hrel with h | h <;> cases h
  have hkaj : k ≠ aj := by
    intro e; subst e
    rw [hacqj] at hrel; simp at hrel
  -- i →po k →sw aj →po j
  exact .trans (.po (by omega) hei hrel rfl) (.trans (.sw (by omega) hrel hacqj hw) (.po haj hacqj hej rfl))

end OAP.Lockset
