/-
Slice of the Lifecycle view: single flight and one recovery per lost connection.
Any number of notifier goroutines call `reconnecting(c)` for arbitrary connections c
(close callback, dispatcher's final error, keepalive, close packet …); the one that wins
spawns the retry goroutine, which re-dials (retrying on failure) and installs a fresh connection.
Proved for every interleaving: at most one retry goroutine is alive, and each connection
is recovered at most once.
Left out of the code: every `closed()` test (of `reconnecting`, of the retry loop, of `dial`), the atomic fast
path, `reconnect` before its `dial`, hit-max, and `Close` altogether (view Recovery has it; see `one_recovery_per_loss`);
the lock is a plain mutex (nobody read-locks here).
-/
import OAP.LTS
namespace OAP.SingleFlight

def upd {α} (f : Nat → α) (k : Nat) (v : α) : Nat → α := fun x => if x = k then v else f x

/-- notifier inside `reconnecting(c)` -/
inductive NPc
  | idle
  | wantW (c : Nat)      -- about to Lock
  | locked (c : Nat)     -- holding the lock: test `doReconnectting || c.conn != conn`
  | spawn (c : Nat)      -- flag set, lock released: about to start the retry goroutine
  | waitRC (c : Nat)     -- waiting for the retry goroutine
  | wantW2 (c : Nat)     -- about to Lock again
  | locked2 (c : Nat)    -- holding the lock: clear the flag
  | done
deriving DecidableEq, Repr

/-- retry goroutine (one slot per spawner) -/
inductive RPc
  | none
  | wantW                -- dial: about to Lock
  | dialing              -- holding the lock, dialer running
  | unlock (ok : Bool)   -- about to Unlock
  | finished
deriving DecidableEq, Repr

structure St where
  cur : Nat              -- current connection id
  nconn : Nat            -- next fresh id
  reconn : Bool          -- doReconnectting
  writer : Bool          -- c.mu held for writing
  notif : Nat → NPc
  rc : Nat → RPc
  spawns : Nat → Nat     -- ghost: retry goroutines ever started for connection c

inductive Act
  | n (t : Nat) (c : Nat)       -- notifier step (c = which connection it reports, used at idle)
  | r (t : Nat) (ok : Bool)     -- retry goroutine of spawner t steps (ok = dial outcome)

def step (s : St) : Act → Option St
  | .n t c =>
    match s.notif t with
    | .idle => some { s with notif := upd s.notif t (.wantW c) }
    | .wantW c => if s.writer then none else some { s with writer := true, notif := upd s.notif t (.locked c) }
    | .locked c =>
        if s.reconn || s.cur != c then some { s with writer := false, notif := upd s.notif t .done }
        else some { s with reconn := true, writer := false, notif := upd s.notif t (.spawn c) }
    | .spawn c => some { s with rc := upd s.rc t .wantW, spawns := upd s.spawns c (s.spawns c + 1),
                                notif := upd s.notif t (.waitRC c) }
    | .waitRC c => if s.rc t = .finished then some { s with rc := upd s.rc t .none, notif := upd s.notif t (.wantW2 c) } else none
    | .wantW2 c => if s.writer then none else some { s with writer := true, notif := upd s.notif t (.locked2 c) }
    | .locked2 _ => some { s with reconn := false, writer := false, notif := upd s.notif t .done }
    | .done => none
  | .r t ok =>
    match s.rc t with
    | .none => none
    | .wantW => if s.writer then none else some { s with writer := true, rc := upd s.rc t .dialing }
    | .dialing =>
        if ok then some { s with cur := s.nconn, nconn := s.nconn + 1, rc := upd s.rc t (.unlock true) }
        else some { s with rc := upd s.rc t (.unlock false) }
    | .unlock ok => some { s with writer := false, rc := upd s.rc t (if ok then .finished else .wantW) }
    | .finished => none

def init : St :=
  { cur := 0, nconn := 1, reconn := false, writer := false,
    notif := fun _ => .idle, rc := fun _ => .none, spawns := fun _ => 0 }

def run : St → List Act → Option St
  | s, [] => some s
  | s, a :: as => (step s a).bind (fun s' => run s' as)

theorem isRun : LTS.IsRun step run := ⟨fun _ => rfl, fun _ _ _ => rfl⟩

/-- the notifier owns the flag (between setting and clearing it), for connection c -/
def owns : NPc → Nat → Prop
  | .spawn c, d | .waitRC c, d | .wantW2 c, d | .locked2 c, d => c = d
  | _, _ => False

def ownsAny : NPc → Prop
  | .spawn _ | .waitRC _ | .wantW2 _ | .locked2 _ => True
  | _ => False

theorem owns_fun (p : NPc) (c d : Nat) (h : owns p c) (h' : owns p d) : c = d := by
  cases p <;> simp_all [owns]

def isWaitRC : NPc → Prop
  | .waitRC _ => True
  | _ => False

theorem wait_any {p : NPc} (h : isWaitRC p) : ownsAny p := by
  cases p <;> simp_all [isWaitRC, ownsAny]

def rAlive : RPc → Prop
  | .wantW | .dialing | .unlock _ => True
  | _ => False

/-- `flag`, `ownUniq`, `rcOwner` are about the flag `doReconnectting` and are all that `single_flight` needs.  The others count
recoveries per connection; `atWait`, `atWant2`, `atLocked2`: from a successful dial until the flag is cleared nothing is started for
the new connection. -/
structure SInv (s : St) : Prop where
  flag : s.reconn = false → ∀ t, ¬ ownsAny (s.notif t)
  ownUniq : ∀ t u, ownsAny (s.notif t) → ownsAny (s.notif u) → t = u
  rcOwner : ∀ t, s.rc t ≠ .none → isWaitRC (s.notif t)
  fresh : s.cur < s.nconn
  spawnedLt : ∀ c, 0 < s.spawns c → c < s.nconn
  spawnOnce : ∀ c, s.spawns c ≤ 1
  spawnedCur : 0 < s.spawns s.cur → s.reconn = true
  atSpawn : ∀ t c, s.notif t = .spawn c → s.spawns c = 0 ∧ s.cur = c
  atWait : ∀ t c, s.notif t = .waitRC c → s.rc t = .finished ∨ s.rc t = .unlock true → s.spawns s.cur = 0
  atWant2 : ∀ t c, s.notif t = .wantW2 c → s.spawns s.cur = 0
  atLocked2 : ∀ t c, s.notif t = .locked2 c → s.spawns s.cur = 0

theorem inv_init : SInv init := by constructor <;> simp [init, ownsAny]

section
attribute [local grind] upd ownsAny isWaitRC
attribute [local grind →] wait_any

/-- shape of the proof: head of `OAP/LTS.lean` -/
theorem inv_step (s : St) (a : Act) (s' : St) (i : SInv s) (hs : step s a = some s') : SInv s' := by
  revert hs
  fun_cases step s a <;> rintro ⟨⟩ <;>
    (constructor
     case flag => first | with_reducible exact i.flag | (have := i.flag; have := i.ownUniq; intros; grind)
     case ownUniq => first | with_reducible exact i.ownUniq | (have := i.flag; have := i.ownUniq; intros; grind)
     case rcOwner => first | with_reducible exact i.rcOwner | (have := i.rcOwner; intros; grind)
     case fresh => first | with_reducible exact i.fresh | (intros; grind)
     case spawnedLt => first | with_reducible exact i.spawnedLt | (have := i.fresh; have := i.spawnedLt; have := i.atSpawn; intros; grind)
     case spawnOnce => first | with_reducible exact i.spawnOnce | (have := i.spawnOnce; have := i.atSpawn; intros; grind)
     case spawnedCur => first | with_reducible exact i.spawnedCur | (have := i.flag; have := i.spawnedLt; have := i.atLocked2; intros; grind)
     case atSpawn => first | with_reducible exact i.atSpawn | (have := i.ownUniq; have := i.rcOwner; have := i.spawnedCur; have := i.atSpawn; intros; grind)
     case atWait => first | with_reducible exact i.atWait | (have := i.ownUniq; have := i.spawnedLt; have := i.atWait; intros; grind)
     case atWant2 => first | with_reducible exact i.atWant2 | (have := i.ownUniq; have := i.spawnedLt; have := i.atWait; have := i.atWant2; intros; grind)
     case atLocked2 => first | with_reducible exact i.atLocked2 | (have := i.ownUniq; have := i.spawnedLt; have := i.atWant2; have := i.atLocked2; intros; grind))
end

theorem inv_reach (acts : List Act) (s : St) (h : run init acts = some s) : SInv s :=
  isRun.inv inv_step acts init s inv_init h

/-- L3 (DESIGN.md Appendix B): in every interleaving at most one retry goroutine is alive -/
theorem single_flight (acts : List Act) (s : St) (h : run init acts = some s) (t u : Nat)
    (ht : rAlive (s.rc t)) (hu : rAlive (s.rc u)) : t = u := by
  have i := inv_reach acts s h
  have a1 : s.rc t ≠ .none := by intro e; rw [e] at ht; exact ht
  have a2 : s.rc u ≠ .none := by intro e; rw [e] at hu; exact hu
  exact i.ownUniq t u (wait_any (i.rcOwner t a1)) (wait_any (i.rcOwner u a2))

/-- D19: however many notifiers report the loss of a connection, and in whatever order, at most one recovery is ever
    started for it — in this slice, which has no `Close`; of the full client the unconditional statement is false:
    `Recovery.one_recovery_per_loss_false` -/
theorem one_recovery_per_loss (acts : List Act) (s : St) (h : run init acts = some s) (c : Nat) :
    s.spawns c ≤ 1 :=
  (inv_reach acts s h).spawnOnce c

/-- non-vacuity: two notifiers report connection 0; the first wins and the retry goroutine installs
    connection 1 after one failed dial; the second notifier arrives late and starts nothing. -/
example :
    (run init [.n 7 0, .n 7 0, .n 7 0, .n 7 0,            -- idle → wantW → locked → spawn → waitRC
               .r 7 false, .r 7 false, .r 7 false,        -- Lock, dial fails, Unlock (retry)
               .r 7 true, .r 7 true, .r 7 true,           -- Lock, dial ok, Unlock → finished
               .n 7 0, .n 7 0, .n 7 0,                    -- waitRC → wantW2 → locked2 → done
               .n 9 0, .n 9 0, .n 9 0                     -- late notifier for connection 0: skipped
              ]).map (fun s => (s.cur, s.spawns 0, s.reconn, s.writer)) = some (1, 1, false, false) := by
  decide

end OAP.SingleFlight
