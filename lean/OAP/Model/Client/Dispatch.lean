/-
C13: routing and the bounded receive queue.
The reader enqueues (dropping with a warning when full), the single dispatcher dequeues in FIFO
order and routes; proved for every interleaving of enqueue/dequeue steps.
-/
import OAP.LTS
namespace OAP.Dispatch

inductive PType | request | response | push
deriving DecidableEq, Repr

structure Pkt where
  type : PType
  cmd : Nat
  tag : Nat
deriving DecidableEq, Repr

/-- `IsControl`: heartbeat/auth/reconnect/close command numbers -/
def isControl (p : Pkt) : Bool := p.cmd ≤ 3

/-- handler invocations caused by one packet: (handler index, packet), subscription order -/
def invocations (subs : Nat → List Nat) (p : Pkt) : List (Nat × Pkt) :=
  if isControl p then []
  else if p.type = .push then (subs p.cmd).map (fun h => (h, p))
  else []

structure St where
  queue : List Pkt            -- packetCh, oldest first
  log : List (Nat × Pkt)      -- handler invocations so far
  accepted : List Pkt         -- ghost: packets that entered the queue, in order
  warnings : Nat              -- "drop packet for channel full"
  dropped : List Pkt          -- ghost
  received : List Pkt         -- ghost: everything the reader decoded, in order

inductive Act
  | recv (p : Pkt)            -- reader decoded p: addPacket
  | dispatch                  -- dispatcher takes the next packet and routes it

def step (cap : Nat) (subs : Nat → List Nat) (s : St) : Act → Option St
  | .recv p =>
      if s.queue.length < cap then
        some { s with queue := s.queue ++ [p], accepted := s.accepted ++ [p], received := s.received ++ [p] }
      else some { s with warnings := s.warnings + 1, dropped := s.dropped ++ [p], received := s.received ++ [p] }
  | .dispatch =>
      match s.queue with
      | [] => none
      | p :: q => some { s with queue := q, log := s.log ++ invocations subs p }

def init : St := { queue := [], log := [], accepted := [], warnings := 0, dropped := [], received := [] }

def run (cap : Nat) (subs : Nat → List Nat) : St → List Act → Option St
  | s, [] => some s
  | s, a :: as => (step cap subs s a).bind (fun s' => run cap subs s' as)

theorem isRun (cap : Nat) (subs : Nat → List Nat) : LTS.IsRun (step cap subs) (run cap subs) :=
  ⟨fun _ => rfl, fun _ _ _ => rfl⟩

structure DInv (subs : Nat → List Nat) (s : St) : Prop where
  split : ∃ done, s.accepted = done ++ s.queue ∧ s.log = done.flatMap (invocations subs)
  warn : s.warnings = s.dropped.length
  acct : s.received.length = s.accepted.length + s.dropped.length

theorem inv_step (cap : Nat) (subs : Nat → List Nat) (s : St) (a : Act) (s' : St)
    (h : DInv subs s) (hs : step cap subs s a = some s') : DInv subs s' := by
  obtain ⟨⟨done, h1, h2⟩, h3, h4⟩ := h
  -- the branches of `step` in order: enqueued, dropped, dispatched
  revert hs
  fun_cases step cap subs s a <;> rintro ⟨⟩
  · exact ⟨⟨done, by simp [h1], h2⟩, h3, by simp; omega⟩
  · exact ⟨⟨done, h1, h2⟩, by simp [h3], by simp; omega⟩
  · next p q hq => exact ⟨⟨done ++ [p], by simp [h1, hq], by simp [h2]⟩, h3, h4⟩

/-- C13 (`dispatch_spec` and `loss_accounting` of DESIGN.md): in every interleaving of reader and dispatcher, once the
    queue is drained the handler log is exactly the routing of the accepted packets, in arrival
    order; losses are exactly the counted overflow drops. -/
theorem dispatch_spec (cap : Nat) (subs : Nat → List Nat) (acts : List Act) (s : St)
    (h : run cap subs init acts = some s) (hq : s.queue = []) :
    s.log = s.accepted.flatMap (invocations subs) ∧ s.warnings = s.dropped.length ∧
    s.received.length = s.accepted.length + s.warnings := by
  have i := (isRun cap subs).inv (inv_step cap subs) acts init s
    ⟨⟨[], by simp [init], by simp [init]⟩, by simp [init], by simp [init]⟩ h
  obtain ⟨⟨done, h1, h2⟩, h3, h4⟩ := i
  rw [hq, List.append_nil] at h1
  exact ⟨by rw [h2, h1], h3, by rw [h3]; exact h4⟩

/-! routing: a push goes exactly once to every handler subscribed to its command, in subscription order, and to no other;
nothing is routed for a control command or for a packet that is not a push -/

theorem invocations_push (subs : Nat → List Nat) (p : Pkt) (hc : isControl p = false) (hp : p.type = .push) :
    invocations subs p = (subs p.cmd).map (fun h => (h, p)) := by simp [invocations, hc, hp]

theorem control_never_to_subscribers (subs : Nat → List Nat) (p : Pkt) (hc : p.cmd ≤ 3) :
    invocations subs p = [] := by simp [invocations, isControl, hc]

theorem response_not_to_subscribers (subs : Nat → List Nat) (p : Pkt) (hp : p.type ≠ .push) :
    invocations subs p = [] := by simp [invocations, hp]

end OAP.Dispatch
