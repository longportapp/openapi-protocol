/-
C17, connection types (tcpConn, wsConn, closeCallback): the access DISCIPLINE over the table regenerated from the source
(`Gen.connAccess`, `Gen.connCalls`, `Gen.connEdges`), and what it implies. Pure list / decidable arguments.

What a ROLE abstracts. A role names the goroutine(s) that can execute a function of ONE connection object:
* `constructor` — before `communicating()` starts the goroutines: the object is reachable from the dialling goroutine only, and
  everything it does happens-before every goroutine of the object (Go memory model: the `go` statement);
* `reader`, `writer`, `dispatcher` — SINGLE goroutines: each is started at exactly one `go` site, which runs at most once per
  object (in a constructor-role function, or in the body of a `sync.Once`) — checked on `Gen.connEdges` by `edgesConsistent` and
  `C17.conn_goroutines`; two accesses made in the same single role are ordered by program order;
* `any` — callers of the API (`Write`, `Close`, `Context`, `OnPacket`, `OnClose`, …) and the helpers they share with the
  goroutines (`closed`, `Close`, `write`): any number of goroutines, concurrently, including the three above.
A function's role is hand-written (`C17.connRoles`); `edgesConsistent` checks it against the call graph of the source: a
function called from a function of another role must be `any`. That the hand-written role of a method VALUE passed to code
outside the package (gorilla's handlers) is right is an assumption, listed with its reason (`C17.connHandlers`).
-/
namespace OAP.LocksetConn

inductive Role
  | constructor | reader | writer | dispatcher | any
deriving DecidableEq, Repr

/-- roles that are one goroutine per connection object -/
def Role.single : Role → Bool
  | .reader | .writer | .dispatcher => true
  | _ => false

/-- how a field is protected after construction -/
inductive Disc
  /-- written only by constructor-role functions; afterwards plain reads only -/
  | constructorOnly
  /-- every access after construction is made by the one goroutine of role `r` -/
  | confined (r : Role)
  /-- a channel, `sync.Once` or mutex: after construction only its own synchronised operations (`call`) -/
  | syncObject
  /-- every access after construction holds lock `m` lexically (write mode unless it is a plain read) -/
  | guardedBy (m : String)
  /-- a variable of a method captured by a goroutine that the method starts under a `sync.Once`: bound at entry, never assigned -/
  | onceBeforeStart
  /-- the field is never written after construction; the OBJECT it holds is used through method calls that its documentation
  allows concurrently (net.Conn, *websocket.Conn within the per-method rules, Logger, the stateless Protocol) -/
  | sharedObject
deriving DecidableEq, Repr

structure Acc where
  struct : String
  field : String
  fn : String
  kind : String
  locks : List String
deriving DecidableEq, Repr

def Acc.ofTuple (t : String × String × String × String × List String) : Acc :=
  ⟨t.1, t.2.1, t.2.2.1, t.2.2.2.1, t.2.2.2.2⟩

structure Tables where
  roles : List (String × Role)
  discs : List ((String × String) × Disc)
  /-- accesses exempt from the discipline, each with a hand-written reason -/
  justified : List (Acc × String)

def roleOf (T : Tables) (fn : String) : Option Role := T.roles.lookup fn
def discOf (T : Tables) (s f : String) : Option Disc := T.discs.lookup (s, f)
def isJustified (T : Tables) (a : Acc) : Bool := T.justified.any (fun j => j.1 == a)

def holdsW (a : Acc) (m : String) : Bool := a.locks.contains (m ++ ":W")
def holdsR (a : Acc) (m : String) : Bool := a.locks.contains (m ++ ":R") || holdsW a m

/-- the discipline for an access made by role `r` (not the constructor) -/
def obeysAfter (d : Disc) (r : Role) (a : Acc) : Bool :=
  match d with
  | .constructorOnly => a.kind == "read"
  | .confined r' => r'.single && r == r'
  | .syncObject => a.kind == "call"
  | .guardedBy m => if a.kind == "read" then holdsR a m else holdsW a m
  | .onceBeforeStart => a.kind == "read"
  | .sharedObject => a.kind == "read" || a.kind == "call"

/-- an access obeys its field's discipline; an unclassified function or field does NOT -/
def obeys (T : Tables) (a : Acc) : Bool :=
  match roleOf T a.fn, discOf T a.struct a.field with
  | some r, some d => r == .constructor || obeysAfter d r a
  | _, _ => false

def disciplined (T : Tables) (tbl : List Acc) : Bool := tbl.all (fun a => isJustified T a || obeys T a)

/-- same location, not both plain reads (`call` operates on the object held in the field and may change it) -/
def Conflicting (a b : Acc) : Prop :=
  a.struct = b.struct ∧ a.field = b.field ∧ (a.kind ≠ "read" ∨ b.kind ≠ "read")

/-- both after construction, and possibly on different goroutines: different roles, or both in the many-goroutine role -/
def Concurrent (T : Tables) (a b : Acc) : Prop :=
  ∃ ra rb, roleOf T a.fn = some ra ∧ roleOf T b.fn = some rb ∧ ra ≠ .constructor ∧ rb ≠ .constructor ∧
    (ra ≠ rb ∨ ra = .any)

/-- why two conflicting, possibly concurrent accesses are not a data race -/
inductive Ordered (T : Tables) (a b : Acc) : Prop
  /-- both hold the field's guard, the one that is not a plain read in write mode: `Lockset.lockset_sound` orders them -/
  | guard (m : String) : discOf T a.struct a.field = some (.guardedBy m) → holdsR a m = true → holdsR b m = true →
      (holdsW a m = true ∨ holdsW b m = true) → Ordered T a b
  /-- neither writes the field, and the object it holds synchronises its own operations (channel, Once, mutex) or documents
  them as safe to call concurrently (`sharedObject`, within the per-method rules of `callsDisciplined`) -/
  | object : (discOf T a.struct a.field = some .syncObject ∨ discOf T a.struct a.field = some .sharedObject) →
      a.kind ≠ "write" → b.kind ≠ "write" → Ordered T a b
  /-- one of them is exempted by hand, with a reason -/
  | byHand : (isJustified T a = true ∨ isJustified T b = true) → Ordered T a b

/-- what each discipline asks of a single access made after construction, in the form `Ordered` takes it -/
theorem obeysAfter_spec {d : Disc} {r : Role} {a : Acc} (h : obeysAfter d r a = true) :
    match d with
    | .constructorOnly | .onceBeforeStart => a.kind = "read"
    | .confined r' => r'.single = true ∧ r = r'
    | .syncObject | .sharedObject => a.kind ≠ "write"
    | .guardedBy m => holdsR a m = true ∧ (a.kind ≠ "read" → holdsW a m = true) := by
  cases d <;> simp only [obeysAfter, Bool.and_eq_true, Bool.or_eq_true, beq_iff_eq] at h ⊢
  case constructorOnly | onceBeforeStart | confined => exact h
  case syncObject => rw [h]; decide
  case sharedObject => rcases h with h | h <;> rw [h] <;> decide
  case guardedBy m =>
    split at h
    next hr => exact ⟨h, fun hk => absurd hr hk⟩
    next => exact ⟨by simp [holdsR, h], fun _ => h⟩

theorem disciplined_after {T : Tables} {tbl : List Acc} (hd : disciplined T tbl = true) {a : Acc} (ha : a ∈ tbl) {r : Role}
    (hr : roleOf T a.fn = some r) (hnc : r ≠ .constructor) :
    isJustified T a = true ∨ ∃ d, discOf T a.struct a.field = some d ∧ obeysAfter d r a = true := by
  have h := List.all_eq_true.mp hd a ha
  simp only [Bool.or_eq_true, obeys, hr] at h
  refine h.imp_right fun h => ?_
  cases hdisc : discOf T a.struct a.field with
  | none => simp [hdisc] at h
  | some d => exact ⟨d, rfl, by simpa [hdisc, hnc] using h⟩

/-- DISCIPLINE SOUNDNESS: in a table that obeys the discipline, two conflicting accesses that can run on different goroutines
after construction are ordered by a common guard, or are operations on a synchronised / concurrency-safe object that do not
write the field, or one of them is in the justified list. (Constructor accesses are ordered before everything else by `go`;
two accesses of one single-goroutine role by program order: neither pair is `Concurrent`.) -/
theorem disciplined_sound (T : Tables) (tbl : List Acc) (hd : disciplined T tbl = true) (a b : Acc)
    (ha : a ∈ tbl) (hb : b ∈ tbl) (hc : Conflicting a b) (hcc : Concurrent T a b) : Ordered T a b := by
  obtain ⟨hs, hf, hk⟩ := hc
  obtain ⟨ra, rb, hra, hrb, hnca, hncb, hdiff⟩ := hcc
  rcases disciplined_after hd ha hra hnca with hja | ⟨d, hdisc, hoa⟩
  · exact .byHand (.inl hja)
  rcases disciplined_after hd hb hrb hncb with hjb | ⟨d', hdisc', hob⟩
  · exact .byHand (.inr hjb)
  obtain rfl : d = d' := by
    rw [← hs, ← hf, hdisc] at hdisc'
    exact Option.some.inj hdisc'
  have sa := obeysAfter_spec hoa
  have sb := obeysAfter_spec hob
  cases d with
  | constructorOnly | onceBeforeStart =>
    rcases hk with h | h
    · exact absurd sa h
    · exact absurd sb h
  | confined r =>
    -- both accesses are made by the one goroutine of role `r`
    obtain ⟨hsingle, rfl⟩ := sa
    obtain ⟨_, rfl⟩ := sb
    rcases hdiff with h | rfl
    · exact absurd rfl h
    · simp [Role.single] at hsingle
  | syncObject => exact .object (.inl hdisc) sa sb
  | sharedObject => exact .object (.inr hdisc) sa sb
  | guardedBy m => exact .guard m hdisc sa.1 sb.1 (hk.imp sa.2 sb.2)

/-- (caller, kind, callee); kind = call | go | ref | once:<field> -/
abbrev Edge := String × String × String

/-- `fn` is the function literal handed to `<once>.Do` -/
def isOnceBody (edges : List Edge) (fn : String) : Bool :=
  edges.any (fun e => e.2.2 == fn && e.2.1 != "call" && e.2.1 != "go" && e.2.1 != "ref")

/-- * call / once: the callee runs on the caller's goroutine — it has the caller's role or is `any`;
    * go: the callee is the entry of a single-goroutine role, started by a constructor or inside a `sync.Once` body (at most once);
    * ref: a method value given away — its role is an assumption that must be listed in `handlers`. -/
def edgeOk (T : Tables) (handlers : List (String × String)) (edges : List Edge) (e : Edge) : Bool :=
  match roleOf T e.1, roleOf T e.2.2 with
  | some rc, some re =>
    if e.2.1 == "go" then re.single && (rc == .constructor || isOnceBody edges e.1)
    else if e.2.1 == "ref" then handlers.any (fun h => h.1 == e.2.2)
    else re == .any || re == rc
  | _, _ => false

def edgesConsistent (T : Tables) (handlers : List (String × String)) (edges : List Edge) : Bool :=
  edges.all (edgeOk T handlers edges)

inductive OpRule
  /-- safe from every goroutine, concurrently -/
  | anyRole
  /-- only the one goroutine of this role (and the constructor) -/
  | only (r : Role)
  /-- only inside the function literal run by this `sync.Once` of the same struct (at most once per object) -/
  | onceBody (once : String)
  /-- only before the goroutines are started -/
  | constructorPhase
deriving DecidableEq, Repr

/-- (struct, field, operation or "*") ↦ rule -/
abbrev CallRules := List ((String × String × String) × OpRule)

def ruleOf (rules : CallRules) (s f op : String) : Option OpRule :=
  match rules.lookup (s, f, op) with
  | some r => some r
  | none => rules.lookup (s, f, "*")

/-- (struct, field, function, operation) obeys the rule of the operation; an operation without a rule does NOT -/
def callOk (T : Tables) (rules : CallRules) (edges : List Edge) (c : String × String × String × String) : Bool :=
  match roleOf T c.2.2.1, ruleOf rules c.1 c.2.1 c.2.2.2 with
  | some r, some rule =>
    match rule with
    | .anyRole => true
    | .only r' => r == .constructor || (r'.single && r == r')
    | .onceBody o => r == .constructor || edges.any (fun e => e.2.2 == c.2.2.1 && e.2.1 == "once:" ++ o)
    | .constructorPhase => r == .constructor
  | _, _ => false

def callsDisciplined (T : Tables) (rules : CallRules) (edges : List Edge) (calls : List (String × String × String × String)) : Bool :=
  calls.all (callOk T rules edges)

/-- operations restricted to one role are made by that one goroutine (or before any goroutine exists): two of them on the
same object are never concurrent — gorilla's "one concurrent reader and one concurrent writer", the streaming decoder's
per-connection state in the Context -/
theorem only_exclusive (T : Tables) (rules : CallRules) (edges : List Edge) (calls : List (String × String × String × String))
    (hd : callsDisciplined T rules edges calls = true) (c : String × String × String × String) (hc : c ∈ calls) (r : Role)
    (hr : ruleOf rules c.1 c.2.1 c.2.2.2 = some (.only r)) :
    roleOf T c.2.2.1 = some .constructor ∨ (roleOf T c.2.2.1 = some r ∧ r.single = true) := by
  have h := List.all_eq_true.mp hd c hc
  unfold callOk at h
  rw [hr] at h
  cases hrole : roleOf T c.2.2.1 with
  | none => simp [hrole] at h
  | some r0 =>
    simp only [hrole, Bool.or_eq_true, Bool.and_eq_true, beq_iff_eq] at h
    rcases h with h | ⟨hs, h⟩
    · left; rw [h]
    · right; exact ⟨by rw [h], hs⟩

end OAP.LocksetConn
