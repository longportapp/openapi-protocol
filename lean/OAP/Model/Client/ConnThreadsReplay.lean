/-
T3 for the ConnThreads view: the connection-level hook log of ONE connection of a real run of the Go client, replayed
through the ConnThreads LTS as a weak trace (same scheme as RecoveryReplay, much smaller).

A hook sits between two statements, i.e. it is something a transition LEAVES PENDING: the role (reader R, writer W,
dispatcher D) cannot move until the event has been consumed from the log.  Everything else is unobserved (τ):

    frontier₀ = {dStart};   frontierₖ₊₁ = dedupe { consume(s', evₖ) | s' ∈ τ-closure(frontierₖ) }

Event ↦ model action
  `conn.read(n)`  (tcp only)     pending after `rReadData k bad` (inRead → decode); k and bad are not in the log: the replay
                                 starts with `rReadData 0 false` and decides LAZILY - "one more frame" rewrites the entry
                                 of the witness to k+1 and takes `rAdd`; "decode error" rewrites it to bad = true.
                                 n = 0 is `continue`: no frame may be added after it.
                                 ws: there is no read hook, `rReadData` is unobserved.
  `conn.addPacket:drop`          pending after an `rAdd` that found packetCh full (`dropped` grows)
  `conn.reader:exit`             pending after any transition that makes `r = exited` (`rTop`, `rCloseTest`, `rCloseOnce`,
                                 the `.rel` step of `body` when R holds the Once)
  `conn.writer:exit`             pending after any transition that makes `w = exited`
  `conn.dispatcher:exit`         pending after `dFinal`
  `conn.write:before-enqueue(g)` the sender goroutine g has passed `conn.closed()`: no model action (`send` is one atomic
                                 step of the model, the hook lies inside it).  The test lies between g's previous event on
                                 this connection and the hook; the most permissive choice is "at once after the previous
                                 event", so g is marked `passed` there iff the close signal is not set in that candidate
                                 (at the beginning: always).  A `before-enqueue` of a goroutine that is not `passed` cannot
                                 be consumed.
                                 A `before-enqueue` of a goroutine that is still between the two hooks: its previous Write
                                 returned "write queue full", model `send` → `rejected`, which needs wq = wcap.  The
                                 WriteQueueSize is not in the log.  If the caller knows it (`wcap = some n`) the refusal is
                                 replayed (`settleRejects`) and the writer's deliveries become part of the search
                                 (`drainSteps`); otherwise the model runs with wcap > number of events and the refusal is
                                 consumed WITHOUT a model step (counted in `queueFullNotReplayed`; the goroutine's new
                                 `closed()` test is still checked).
  `conn.write:enqueued(g, len)`  `send stale` with stale := closeSig of the candidate (a test made before the close),
                                 which must accept (`accepted` grows); g must have logged `before-enqueue`.
Unobserved: `rTop`, `rReadErr`, `rDecoded`, `rAdd` into a queue with room, `rCloseTest`, `rCloseOnce`, all writer and
dispatcher steps that do not exit, `body`, the Close calls of ONE external caller (`xCall 0`, `xCloseTest 0`,
`xCloseOnce 0`: more callers add no behaviour that the hooks can see), `peerSend`, `peerClose`.
Prunings (they only remove interleavings, so they cannot make a log conform that is not a trace; every `ok` is certified by
re-running the witness through `ConnThreads.run`):
  * a transition that leaves a hook pending is taken only if that hook is the role's next logged event;
  * closeSig, sockClosed and peerClosed are monotone, they only disable the reader's way to a read / a drop and only
    enable the ways to the exits: a reader whose next event is a read or a drop runs as early as possible (before anybody
    else), a role whose next event is its exit moves only when that exit is the event to be consumed, the external
    closer only before an exit event, the peer's close only before the reader's exit (see `expand`);
  * frames are added to packetCh only towards a logged drop; the peer sends only into a waiting `Read` that the log needs;
    `peerStall`, short writes, the ticker and the dispatcher's deliveries before the close are never taken (a full packetCh
    only helps), the writer's deliveries only if the WriteQueueSize is known (else the write queue never has to be drained).
-/
import OAP.Model.Client.ConnThreads
namespace OAP.ConnThreadsReplay
open OAP OAP.ConnThreads

inductive Ev
  | read (n : Nat) | drop | before (g : Nat) | enq (g : Nat) (len : Nat) | rexit | wexit | dexit
deriving DecidableEq, Repr

def Ev.name : Ev → String
  | .read n => s!"conn.read({n})" | .drop => "conn.addPacket:drop" | .before g => s!"conn.write:before-enqueue(g{g})"
  | .enq g l => s!"conn.write:enqueued(g{g},{l})" | .rexit => "conn.reader:exit" | .wexit => "conn.writer:exit"
  | .dexit => "conn.dispatcher:exit"

/-- the hook the reader's last transition left pending -/
inductive RPend | none | read | drop | exit
deriving DecidableEq, Repr

structure Cand where
  s : St
  pr : RPend := .none
  pw : Bool := false             -- `conn.writer:exit` pending
  pd : Bool := false             -- `conn.dispatcher:exit` pending
  noFrames : Bool := false       -- the last `conn.read` had n = 0
  passed : List Nat := []        -- sender goroutines whose `closed()` test has returned false
  inSel : List Nat := []         -- sender goroutines between `before-enqueue` and `enqueued`
  retest : List Nat := []        -- those of `inSel` that logged `before-enqueue` while the close signal was not set
  softRejects : Nat := 0         -- Writes that returned "write queue full" (consumed without a model step, see `consume`)
  exR : Bool := false            -- the exit events consumed so far
  exW : Bool := false
  exD : Bool := false
  hist : List Act := []          -- the witness, newest first

def b2n (b : Bool) : Nat := if b then 1 else 0

/-- the goroutine sets are kept as sorted lists (one key per set) -/
def ins (g : Nat) : List Nat → List Nat
  | [] => [g]
  | x :: xs => if g < x then g :: x :: xs else if g == x then x :: xs else x :: ins g xs
def cpcN : CPc → Nat | .test => 0 | .once => 1 | .body => 2
def rKey : RPc → List Nat
  | .top => [0, 0, 0] | .inRead => [1, 0, 0] | .decode k b => [2, k, b2n b] | .close c => [3, cpcN c, 0]
  | .exited => [4, 0, 0]
def wKey : WPc → List Nat
  | .top => [0, 0] | .sel => [1, 0] | .chk => [2, 0] | .inWrite => [3, 0] | .close c => [4, cpcN c] | .exited => [5, 0]
def dKey : DPc → Nat
  | .notStarted => 0 | .sel => 1 | .handling => 2 | .drain => 3 | .drainHandling => 4 | .final => 5 | .exited => 6
def whoN : Who → Nat | .r => 0 | .w => 1 | .x i => 2 + i
def bpcN : BPc → Nat | .sig => 0 | .sock => 1 | .cb => 2 | .rel => 3
def onceKey : Once → List Nat
  | .free => [0, 0, 0] | .held w b => [1, whoN w, bpcN b] | .done => [2, 0, 0]
def xKey : XPc → Nat | .idle => 0 | .close c => 1 + cpcN c
def prN : RPend → Nat | .none => 0 | .read => 1 | .drop => 2 | .exit => 3

/-- everything that can influence the rest of the replay (the unbounded ghost counters enq / delivered / dropped /
    accepted … are left out: they guard nothing) -/
def Cand.key (c : Cand) : List Nat :=
  let s := c.s
  rKey s.r ++ wKey s.w ++ [dKey s.d, xKey (s.ext 0)] ++ onceKey s.once ++
  [b2n s.closeSig, b2n s.sockClosed, s.pq, s.wq, b2n s.wpend, s.avail, b2n s.peerClosed, b2n s.stalled,
   s.sigCloses, s.sockCloses, s.closeCallbacks, s.finalReports,
   prN c.pr, b2n c.pw, b2n c.pd, b2n c.noFrames, b2n c.exR, b2n c.exW, b2n c.exD, c.passed.length, c.inSel.length] ++ c.passed ++ c.inSel ++ c.retest

def hashKey (k : List Nat) : UInt64 :=
  k.foldl (fun h n => (h ^^^ n.toUInt64) * 0x100000001b3) 0xcbf29ce484222325

abbrev Keyed := UInt64 × List Nat
def keyed (c : Cand) : Keyed := let k := c.key; (hashKey k, k)
def seenIn (seen : List Keyed) (k : Keyed) : Bool := seen.any (fun x => x.1 == k.1 && x.2 == k.2)

def addNew (seen : List Keyed) (acc : List Cand) : List Cand → List Keyed × List Cand
  | [] => (seen, acc.reverse)
  | c :: cs =>
    let k := keyed c
    if seenIn seen k then addNew seen acc cs else addNew (k :: seen) (c :: acc) cs

/-- re-tabulate `ext` (only index 0 is used) -/
def Cand.compact (c : Cand) : Cand :=
  let x0 := c.s.ext 0
  { c with s := { c.s with ext := fun i => if i = 0 then x0 else .idle } }

/-! ### what the rest of the log says -/

structure Nx where
  r : Option Ev      -- the reader's next event
  w : Bool           -- the writer's exit is still to come
  d : Bool           -- the dispatcher's exit is still to come
  realW : Bool := false        -- `wcap` is the WriteQueueSize of the run: "write queue full" is replayed (see `settleRejects`)
  rej : List Nat := []         -- realW: the sender goroutines whose next event is `before-enqueue`

def isREv : Ev → Bool | .read _ | .drop | .rexit => true | _ => false
/-- the sender goroutines whose first event in `rest` is `before-enqueue` -/
def nextBefore (rest : List Ev) : List Nat :=
  let rec go (evs : List Ev) (seen acc : List Nat) : List Nat :=
    match evs with
    | [] => acc
    | .before g :: es => if seen.contains g then go es seen acc else go es (g :: seen) (g :: acc)
    | .enq g _ :: es => go es (g :: seen) acc
    | _ :: es => go es seen acc
  go rest [] []

def mkNx (realW : Bool) (rest : List Ev) : Nx :=
  { r := rest.find? isREv, w := rest.contains .wexit, d := rest.contains .dexit, realW := realW,
    rej := if realW then nextBefore rest else [] }

def Nx.isRead (nx : Nx) : Bool := match nx.r with | some (.read _) => true | _ => false
def Nx.isDrop (nx : Nx) : Bool := nx.r == some .drop
def Nx.isRExit (nx : Nx) : Bool := nx.r == some .rexit

/-- rewrite the newest `rReadData` of the witness -/
def patchRead (f : Nat → Bool → Act) : List Act → List Act
  | [] => []
  | .rReadData n b :: t => f n b :: t
  | a :: t => a :: patchRead f t

/-- take the model action `a`; the hook it leaves pending must be the role's next logged event -/
def app (cfg : Cfg) (nx : Nx) (c : Cand) (a : Act) : Option Cand :=
  match step cfg c.s a with
  | none => none
  | some s' =>
    let rEx := c.s.r != .exited && s'.r == .exited
    let wEx := c.s.w != .exited && s'.w == .exited
    let dEx := c.s.d != .exited && s'.d == .exited
    let pr : RPend :=
      if rEx then .exit else
      match a with
      | .rReadData _ _ => if cfg.ws then .none else .read
      | .rAdd => if s'.dropped != c.s.dropped then .drop else .none
      | _ => c.pr
    let okR := pr == c.pr || (match pr with
      | .none => true | .read => nx.isRead | .drop => nx.isDrop | .exit => nx.isRExit)
    if !okR || (wEx && !nx.w) || (dEx && !nx.d) then none else
    some { c with s := s', pr := pr, pw := c.pw || wEx, pd := c.pd || dEx, hist := a :: c.hist }

def holderIs (s : St) (w : Who) : Bool := match s.once with | .held w' _ => w' == w | _ => false

def readerSteps (cfg : Cfg) (nx : Nx) (c : Cand) : List Cand :=
  if c.pr != .none || nx.r.isNone then [] else
  let s := c.s
  let plain : List Act :=
    [.rTop, .rDecoded, .rCloseTest, .rCloseOnce] ++
    (if nx.isRExit then [.rReadErr] else []) ++
    (if (if cfg.ws then nx.isDrop else nx.isRead) then [.rReadData 0 false] else []) ++
    (if holderIs s .r then [Act.body] else [])
  let lazy : List Cand :=
    match s.r with
    | .decode 0 false =>
      (if nx.isDrop && !c.noFrames then
        -- one more frame in the chunk read last
        let c1 := { c with s := { s with r := .decode 1 false }, hist := patchRead (fun n b => .rReadData (n + 1) b) c.hist }
        (app cfg nx c1 .rAdd).toList
       else []) ++
      (if nx.isRExit then
        -- the chunk read last does not decode
        let c1 := { c with s := { s with r := .decode 0 true }, hist := patchRead (fun n _ => .rReadData n true) c.hist }
        (app cfg nx c1 .rDecoded).toList
       else [])
    | _ => []
  plain.filterMap (app cfg nx c) ++ lazy

def writerSteps (cfg : Cfg) (nx : Nx) (c : Cand) : List Cand :=
  if c.pw || !nx.w then [] else
  (([Act.wTop, .wSelClose, .wChk, .wWriteErr, .wCloseTest, .wCloseOnce] : List Act) ++
    (if holderIs c.s .w then [Act.body] else [])).filterMap (app cfg nx c)

def dispSteps (cfg : Cfg) (nx : Nx) (c : Cand) : List Cand :=
  if c.pd || !nx.d then [] else
  [Act.dSelClose, .dHandled, .dDrain, .dFinal].filterMap (app cfg nx c)

/-- the peer sends into a waiting `Read` that the log needs -/
def peerSteps (cfg : Cfg) (nx : Nx) (c : Cand) : List Cand :=
  let s := c.s
  let acts : List Act :=
    if s.r == RPc.inRead && s.avail == 0 && !s.sockClosed && c.pr == RPend.none &&
        (nx.isDrop || (!cfg.ws && nx.isRead)) then [Act.peerSend] else []
  acts.filterMap (app cfg nx c)

/-- the external caller of Close, and the peer's close under a reader that is about to leave -/
def closeSteps (cfg : Cfg) (nx : Nx) (e : Ev) (c : Cand) : List Cand :=
  let s := c.s
  let acts : List Act :=
    (if !s.closeSig && s.once == Once.free && s.ext 0 == XPc.idle then [Act.xCall 0] else []) ++
    [Act.xCloseTest 0, Act.xCloseOnce 0] ++
    (if holderIs s (Who.x 0) then [Act.body] else []) ++
    (if e == Ev.rexit && s.r == RPc.inRead && !s.peerClosed && !s.closeSig then [Act.peerClose] else [])
  acts.filterMap (app cfg nx c)

def isExitEv : Ev → Bool | .rexit | .wexit | .dexit => true | _ => false
def isSendEv : Ev → Bool | .before _ | .enq _ _ => true | _ => false

/-- realW: a sender between its two hooks whose next event is another `before-enqueue` got "write queue full"
    (`send` → `rejected`: needs wq = wcap) and passed `closed()` again (needs the signal not set).  Whenever both hold the
    step is taken at once: it changes nothing but the ghost counter, and waiting can only lose the chance. -/
def settleRejects (cfg : Cfg) (nx : Nx) (c : Cand) : Cand :=
  if !nx.realW || c.s.closeSig || c.s.wq < cfg.wcap then c else
  c.inSel.foldl (fun c g =>
    if !nx.rej.contains g then c else
    match step cfg c.s (.send false) with
    | some s' =>
      if s'.rejected != c.s.rejected + 1 then c else
      { c with s := s', hist := Act.send false :: c.hist, inSel := c.inSel.erase g, retest := c.retest.erase g,
               passed := ins g c.passed }
    | none => c) c

/-- realW: the writer takes one frame from writeCh and writes it (`wTop` (tcp), `wSelRecv`, `wChk` (ws), `wWriteOk`) as
    ONE step: where the writer stands in between matters to nobody (from every one of these pcs it leaves after a close).
    Deliveries commute with everything but the senders' steps and the close: they are taken only before those. -/
def drainSteps (cfg : Cfg) (nx : Nx) (e : Ev) (c : Cand) : List Cand :=
  if !nx.realW || c.pw || c.s.wq == 0 || !(isSendEv e || isExitEv e) then [] else
  let acts : List Act := if cfg.ws then [.wSelRecv, .wChk, .wWriteOk false] else [.wTop, .wSelRecv, .wWriteOk false]
  (acts.foldl (fun (oc : Option Cand) a => oc.bind (fun c => app cfg nx c a)) (some c)).toList

/-- One unobserved step, `e` being the event to be consumed next.  Reduction (closeSig, sockClosed, peerClosed are
    monotone; they only DISABLE the reader's way to a read or a drop and only ENABLE the ways to the exits):
      * a reader whose next event is a read or a drop runs as early as possible and before anybody else;
      * the steps towards an exit, the Close of the external caller and the peer's close are taken as late as possible:
        only when `e` is that exit (the closer: any exit). -/
def expand (cfg : Cfg) (nx : Nx) (e : Ev) (c : Cand) : List Cand :=
  let eagerR := nx.isRead || nx.isDrop
  let rs := if eagerR || e == Ev.rexit then readerSteps cfg nx c ++ peerSteps cfg nx c else []
  if eagerR && !rs.isEmpty then rs else
  (rs ++ (if e == Ev.wexit then writerSteps cfg nx c else []) ++ (if e == Ev.dexit then dispSteps cfg nx c else []) ++
   (if isExitEv e then closeSteps cfg nx e c else []) ++ drainSteps cfg nx e c).map (settleRejects cfg nx)

/-- τ-closure, breadth first, at most `fuel` levels and `cap` states -/
def closure (cfg : Cfg) (nx : Nx) (e : Ev) (cap : Nat) : Nat → List Keyed → List Cand → List Cand → List Cand
  | 0, _, all, _ => all
  | fuel + 1, seen, all, level =>
    if level.isEmpty ∨ all.length ≥ cap then all else
    let (seen', fresh) := addNew seen [] (level.flatMap (expand cfg nx e))
    closure cfg nx e cap fuel seen' (all ++ fresh) fresh

def consume (cfg : Cfg) (realW : Bool) (c : Cand) : Ev → List Cand
  | .read n => if c.pr == .read then [{ c with pr := .none, noFrames := n == 0 }] else []
  | .drop => if c.pr == .drop then [{ c with pr := .none }] else []
  | .rexit => if c.pr == .exit && !c.exR then [{ c with pr := .none, exR := true }] else []
  | .wexit => if c.pw && !c.exW then [{ c with pw := false, exW := true }] else []
  | .dexit => if c.pd && !c.exD then [{ c with pd := false, exD := true }] else []
  | .before g =>
    let rt := if c.s.closeSig then c.retest.erase g else if c.retest.contains g then c.retest else ins g c.retest
    if c.inSel.contains g then
      -- g's previous Write returned "write queue full" (model: `send` → `rejected`, which needs wq = wcap; the real
      -- WriteQueueSize is not in the log and the replay runs with a generous one, so NO model step is taken) and g has
      -- passed `closed()` again: possible iff the signal was not yet set when the previous `before-enqueue` was logged
      -- (closeSig is monotone)
      if !realW && c.retest.contains g then [{ c with retest := rt, softRejects := c.softRejects + 1 }] else []
    else if c.passed.contains g then [{ c with passed := c.passed.erase g, inSel := ins g c.inSel, retest := rt }]
    else []
  | .enq g _ =>
    if !c.inSel.contains g then [] else
    let a := Act.send c.s.closeSig
    match step cfg c.s a with
    | none => []
    | some s' =>
      if s'.accepted != c.s.accepted + 1 then [] else
      [{ c with s := s', hist := a :: c.hist, inSel := c.inSel.erase g, retest := c.retest.erase g,
                passed := if s'.closeSig then c.passed else ins g c.passed }]

/-! ### executable consequences of the invariant (`WInv`, `exited_run`), checked on every candidate

A candidate's state is the result of `step`s except where the replay rewrites it by hand (the lazy `decode` patch of
`readerSteps`, `Cand.compact`): a violation is a bug of the replay, never of the code. -/

def invViolation (cfg : Cfg) (c : Cand) : Option String :=
  let s := c.s
  if s.sigCloses > 1 then some "close(closeCh) twice"
  else if s.sockCloses > 1 then some "socket closed twice"
  else if s.closeCallbacks > 1 then some "close callbacks twice"
  else if s.finalReports > 1 then some "final report twice"
  else if s.dStarts > 1 then some "two dispatchers"
  else if s.pq > cfg.pcap then some "packetCh above its capacity"
  else if s.wq > cfg.wcap then some "writeCh above its capacity"
  else if s.enq != s.pq + s.delivered then some "packet accounting"
  else if s.closeSig != sigDone s.once then some "closeSig ≠ sigDone once"
  else if s.sockClosed != sockDone s.once then some "sockClosed ≠ sockDone once"
  else if c.exR && s.r != .exited then some "reader left exited"
  else if c.exW && s.w != .exited then some "writer left exited"
  else if c.exD && s.d != .exited then some "dispatcher left exited"
  else if s.finalReports != (if s.d == .exited then 1 else 0) then some "final report ≠ dispatcher exited"
  else none

def showState (c : Cand) : String :=
  let s := c.s
  s!"r={repr s.r} w={repr s.w} d={repr s.d} ext0={repr (s.ext 0)} once={repr s.once} closeSig={s.closeSig} " ++
  s!"sockClosed={s.sockClosed} peerClosed={s.peerClosed} pq={s.pq} wq={s.wq} avail={s.avail} pendR={repr c.pr} " ++
  s!"pendW={c.pw} pendD={c.pd} passed={c.passed} inSelect={c.inSel} queueFullNotReplayed={c.softRejects}"

inductive ReplayResult
  | ok (events : Nat) (maxFrontier : Nat) (maxClosure : Nat) (acts : List Act) (final : String)
  | diverges (k : Nat) (e : Ev) (state : String)
  | broken (k : Nat) (what : String)
  | uncertified (k : Nat)

def closureFuel : Nat := 64
def closureCap : Nat := 2048
def frontierCap : Nat := 512

def replayFrom (cfg : Cfg) (realW : Bool) : List Cand → Nat → Nat → Nat → List Ev → ReplayResult
  | front, k, mf, mc, [] =>
    match front with
    | [] => .broken k "empty frontier"
    | c :: _ => .ok k mf mc c.hist.reverse (showState c)
  | front, k, mf, mc, e :: rest =>
    let nx := mkNx realW (e :: rest)
    let (seen, lvl0) := addNew [] [] (front.map (settleRejects cfg nx))
    let cl := closure cfg nx e closureCap closureFuel seen lvl0 lvl0
    let (_, next) := addNew [] [] (cl.flatMap (fun c => (consume cfg realW c e).map (settleRejects cfg (mkNx realW rest))))
    match next with
    | [] =>
      match front with
      | c :: _ => .diverges k e (showState c)
      | [] => .broken k "empty frontier"
    | _ =>
      match (cl ++ next).findSome? (invViolation cfg) with
      | some w => .broken k w
      | none =>
        let next := (next.take frontierCap).map Cand.compact
        replayFrom cfg realW next (k + 1) (max mf next.length) (max mc cl.length) rest

/-- the senders whose first event is `before-enqueue` (their test may have been made at the very beginning) -/
def firstBefore (evs : List Ev) : List Nat :=
  let rec go (evs : List Ev) (seen acc : List Nat) : List Nat :=
    match evs with
    | [] => acc.reverse
    | .before g :: es => if seen.contains g then go es seen acc else go es (g :: seen) (g :: acc)
    | .enq g _ :: es => go es (g :: seen) acc
    | _ :: es => go es seen acc
  go evs [] []

/-- queue sizes: `pcap` as given (a drop needs a full packetCh); `wcap`: the WriteQueueSize of the run if known
    (`some n`: "write queue full" is replayed as `send` → `rejected`), else above the number of logged enqueues -/
def mkCfg (ws : Bool) (pcap : Nat) (wcap : Option Nat) (evs : List Ev) : Cfg :=
  { pcap := pcap, wcap := wcap.getD (evs.length + 1), ws := ws }

def certify (cfg : Cfg) (acts : List Act) : Option St := run cfg (init cfg) acts

def replay (ws : Bool) (pcap : Nat) (wcap : Option Nat) (evs : List Ev) : ReplayResult :=
  let cfg := mkCfg ws pcap wcap evs
  match step cfg (init cfg) .dStart with
  | none => .broken 0 "dStart"
  | some s0 =>
    match replayFrom cfg wcap.isSome [{ s := s0, passed := (firstBefore evs).foldl (fun l g => ins g l) [], hist := [.dStart] }] 0 1 1 evs with
    | .ok k mf mc acts fin => if (certify cfg acts).isSome then .ok k mf mc acts fin else .uncertified k
    | r => r

/-- whatever the search did: an `ok` comes with a run of the ConnThreads LTS from `init`, so every theorem of
    ConnThreads.lean about `run cfg (init cfg) acts = some s` applies to the witness.  That the witness matches the log
    `evs` is NOT part of the statement: it is what `consume` and `app` compute (with `wcap = none`, for a made-up
    WriteQueueSize and with "write queue full" consumed without a step) -/
theorem replay_ok_reachable (ws : Bool) (pcap : Nat) (wcap : Option Nat) (evs : List Ev) (k mf mc : Nat)
    (acts : List Act) (fin : String) (h : replay ws pcap wcap evs = .ok k mf mc acts fin) :
    ∃ s, run (mkCfg ws pcap wcap evs) (init (mkCfg ws pcap wcap evs)) acts = some s := by
  apply Option.isSome_iff_exists.mp
  unfold replay at h
  simp only at h
  split at h
  · cases h
  · split at h
    · split at h
      · rename_i hc; cases h; exact hc
      · cases h
    · rename_i hne; exact (hne _ _ _ _ _ h).elim

/-! ### build-time regression checks -/

def isOk : ReplayResult → Bool | .ok .. => true | _ => false
def divergesAt : ReplayResult → Option Nat | .diverges k .. => some k | _ => none

/-- a dial, one request, three chunks read, user Close -/
def demoLog : List Ev :=
  [.before 7, .enq 7 2, .read 2, .before 7, .enq 7 30, .read 40, .read 12, .rexit, .wexit, .dexit]

#guard isOk (replay false 4 none demoLog)
#guard isOk (replay true 4 none [.before 7, .enq 7 2, .drop, .drop, .wexit, .rexit, .dexit])
#guard isOk (replay false 2 none [.read 100, .drop, .drop, .read 0, .read 5, .drop, .dexit, .rexit])
-- no frame in an empty chunk
#guard divergesAt (replay false 2 none [.read 100, .drop, .read 0, .drop]) == some 3
-- a read after the reader's exit
#guard divergesAt (replay false 4 none (demoLog ++ [.read 3])) == some 10
-- two exits of the writer
#guard divergesAt (replay false 4 none (demoLog ++ [.wexit])) == some 10
-- the dispatcher leaves first: the close signal is set from the start, the sender's second Write cannot pass its test
#guard divergesAt (replay false 4 none (.dexit :: demoLog)) == some 4
-- a sender that starts a new Write after one that it completed after the writer had left (the close signal was set)
-- (the first `before-enqueue` after the exit is fine: the hook may be logged long after the test)
#guard divergesAt (replay false 4 none [.before 7, .enq 7 2, .wexit, .before 7, .enq 7 2, .before 7]) == some 5
-- … but a Write whose test was made before the close may still enqueue
#guard isOk (replay false 4 none [.before 7, .wexit, .rexit, .dexit, .enq 7 2])
-- "write queue full" and a new Write of the same goroutine; not after the close signal
#guard isOk (replay false 4 none [.before 7, .before 7, .enq 7 2])
#guard divergesAt (replay false 4 none [.before 7, .enq 7 2, .wexit, .before 7, .before 7]) == some 4
-- the same with WriteQueueSize = 1 known: the queue must be full for the refusal (the writer may or may not have taken the
-- first frame), and the third Write needs the writer to have taken one
#guard isOk (replay false 4 (some 1) [.before 7, .before 8, .enq 7 2, .before 8, .enq 8 2, .before 9, .enq 9 2])
#guard divergesAt (replay false 4 (some 1) [.before 7, .before 7, .enq 7 2]) == some 1
-- after the writer has left nobody makes room
#guard divergesAt (replay false 4 (some 1) [.before 7, .before 8, .before 9, .enq 7 2, .wexit, .enq 8 2, .enq 9 2]) == some 6
-- `enqueued` without `before-enqueue`
#guard divergesAt (replay false 4 none [.enq 7 2]) == some 0

end OAP.ConnThreadsReplay
