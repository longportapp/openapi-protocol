/-
C15, quantitative part: detection latency and absence of false positives of the keepalive bookkeeping under
scheduling slack (late ticks) and slow pongs. Same model as `OAP.Model.Client.Keepalive` (`step`/`runK`, explicit
event times).

Go code mirrored (client.go, `keepalive()`): a ticker with period `Keepalive`; on every tick `check()` — if a ping is
outstanding (`lastKeepaliveId != 0`) and `time.Since(lastPongAt) > KeepaliveTimeout` the connection is recycled —
otherwise `ping()` (fresh request id, recorded in `lastKeepaliveId`); `handlePong` sets `lastPongAt = time.Now()`.
The id generator of a connection counts 1, 2, 3, … (`GetRequestIDGen` in context.go: `atomic.AddUint32(&id, 1)`
from 0): hypothesis `k.nextId ≠ 0` below. (The model's counter is a `Nat`; the uint32 wrap-around to 0 after 2^32 − 1
requests on one connection is outside this view.)
-/
import OAP.Model.Client.Keepalive
namespace OAP.Keepalive

/-- a tick schedule with spacing at most `d`: the first tick comes at most `d` after `p`, every further tick at most
`d` after its predecessor (`d = interval + J`, `J` = scheduling slack of the ticker/goroutine). No lower bound on the
spacing and no monotonicity is assumed. -/
def Spaced (d : Nat) : Nat → List Nat → Prop
  | _, [] => True
  | p, t :: ts => t ≤ p + d ∧ Spaced d t ts

instance Spaced.dec (d : Nat) : ∀ (p : Nat) (ts : List Nat), Decidable (Spaced d p ts)
  | _, [] => isTrue trivial
  | p, t :: ts => @instDecidableAnd (t ≤ p + d) _ _ (Spaced.dec d t ts)

/-- while no pong arrives, no tick at a time ≤ lastPong + timeout recycles — for ANY tick list and any state -/
theorem no_early_recycle (cfg : Cfg) (ticks : List Nat) : ∀ (k : K) (i t : Nat),
    ticks[i]? = some t → t ≤ k.lastPong + cfg.timeout →
    (runK cfg k (ticks.map .tick)).2[i]? ≠ some Act.recycle := by
  induction ticks with
  | nil => intro k i t h; simp at h
  | cons t0 ts ih =>
    intro k i t hi ht
    cases i with
    | zero =>
      obtain rfl : t0 = t := by simpa using hi
      rw [List.map_cons, runK_tick_ok (checkFails_eq_false ht)]
      simp
    | succ i =>
      simp only [List.getElem?_cons_succ] at hi
      cases hc : checkFails cfg k t0 with
      | true => rw [List.map_cons, runK_tick_fail hc, List.getElem?_cons_succ]; exact ih k i t hi ht
      | false =>
        rw [List.map_cons, runK_tick_ok hc, List.getElem?_cons_succ]
        exact ih { k with lastId := k.nextId, nextId := k.nextId + 1 } i t hi ht

/-- the first `.recycle` of `acts` is produced by a tick at time `t` (`acts` = the actions of the ticks, one each) -/
def FirstRecycleAt (ticks : List Nat) (acts : List Act) (t : Nat) : Prop :=
  ∃ i : Nat, ticks[i]? = some t ∧ acts[i]? = some Act.recycle ∧ ∀ j : Nat, j < i → acts[j]? ≠ some Act.recycle

theorem FirstRecycleAt.here {t : Nat} {ts : List Nat} {as : List Act} : FirstRecycleAt (t :: ts) (.recycle :: as) t :=
  ⟨0, rfl, rfl, fun j hj => by omega⟩

theorem FirstRecycleAt.later {t t0 n : Nat} {ts : List Nat} {as : List Act} (h : FirstRecycleAt ts as t) :
    FirstRecycleAt (t0 :: ts) (.ping n :: as) t := by
  obtain ⟨i, h1, h2, h3⟩ := h
  refine ⟨i + 1, by simpa using h1, by simpa using h2, fun j hj => ?_⟩
  cases j with
  | zero => simp
  | succ j => simpa using h3 j (by omega)

/-- core of the bound: a ping is outstanding, the ticks are spaced by at most `d` starting from `q` (the previous
tick, or the last pong), and some tick lies beyond lastPong + timeout. Then the FIRST `.recycle` is produced by a tick
in (lastPong + timeout, max q (lastPong + timeout) + d]. (`p` keeps the last pong, which ticks do not change, one atom
for `omega` through the induction.) -/
theorem detect_core {cfg : Cfg} {d p q : Nat} {ticks : List Nat} {k : K} (hp : k.lastPong = p) (hid : k.lastId ≠ 0)
    (hgen : k.nextId ≠ 0) (hsp : Spaced d q ticks) (hlong : ∃ t ∈ ticks, p + cfg.timeout < t) :
    ∃ t, FirstRecycleAt ticks (runK cfg k (ticks.map .tick)).2 t ∧
      p + cfg.timeout < t ∧ t ≤ max q (p + cfg.timeout) + d := by
  induction ticks generalizing k q with
  | nil => simp at hlong
  | cons t0 ts ih =>
    obtain ⟨hsp0, hsp'⟩ := hsp
    by_cases ht : p + cfg.timeout < t0
    · rw [List.map_cons, runK_tick_fail ((check_fails_iff cfg k t0).mpr ⟨hid, by omega⟩)]
      exact ⟨t0, .here, ht, by omega⟩
    · rw [List.map_cons, runK_tick_ok (checkFails_eq_false (by omega))]
      obtain ⟨t, h1, h2, h3⟩ := ih (k := { k with lastId := k.nextId, nextId := k.nextId + 1 }) hp hgen (by simp) hsp'
        (by simpa [ht] using hlong)
      exact ⟨t, h1.later, h2, by omega⟩

/-- a tick that sends a ping, whatever the bookkeeping before it, then `detect_core` from that tick -/
theorem detect_after_ping {cfg : Cfg} {d : Nat} {k : K} {t0 : Nat} {ts : List Nat} (hgen : k.nextId ≠ 0)
    (hc : checkFails cfg k t0 = false) (hsp : Spaced d t0 ts) (hlong : ∃ t ∈ ts, k.lastPong + cfg.timeout < t) :
    ∃ t, FirstRecycleAt (t0 :: ts) (runK cfg k ((t0 :: ts).map .tick)).2 t ∧
      k.lastPong + cfg.timeout < t ∧ t ≤ max t0 (k.lastPong + cfg.timeout) + d := by
  rw [List.map_cons, runK_tick_ok hc]
  obtain ⟨t, h1, h2⟩ := detect_core (k := { k with lastId := k.nextId, nextId := k.nextId + 1 }) rfl hgen (by simp) hsp hlong
  exact ⟨t, h1.later, h2⟩

/-- a FRESH connection (no ping sent yet: `lastId = 0`, the state in which `keepalive()` starts and in which every
recovery leaves the bookkeeping), no hypothesis relating timeout and interval: the first tick only sends the first
ping, whatever its time; the first `.recycle` comes at a time in
(lastPong + timeout, lastPong + max timeout (interval + J) + interval + J]. -/
theorem detection_bound_fresh (cfg : Cfg) (J : Nat) (k : K) (t0 : Nat) (ts : List Nat)
    (hgen : k.nextId ≠ 0) (hid : k.lastId = 0)
    (hsp : Spaced (cfg.interval + J) k.lastPong (t0 :: ts))
    (hlong : ∃ t ∈ ts, k.lastPong + cfg.timeout < t) :
    ∃ (i t : Nat), (t0 :: ts)[i]? = some t ∧ (runK cfg k ((t0 :: ts).map .tick)).2[i]? = some Act.recycle ∧
      (∀ j : Nat, j < i → (runK cfg k ((t0 :: ts).map .tick)).2[j]? ≠ some Act.recycle) ∧
      k.lastPong + cfg.timeout < t ∧ t ≤ k.lastPong + max cfg.timeout (cfg.interval + J) + cfg.interval + J := by
  obtain ⟨t, ⟨i, h1, h2, h3⟩, h4, h5⟩ :=
    detect_after_ping hgen (by simp [checkFails, hid]) hsp.2 hlong
  exact ⟨i, t, h1, h2, h3, h4, by have := hsp.1; omega⟩

/-- C15. `J` = scheduling slack: the first tick comes at most `interval + J` after the last pong
and consecutive ticks are at most `interval + J` apart (`hsp`). No pong arrives any more (the event list consists of
ticks only). The id generator does not yield 0 (`hgen`: ids count from 1). A ping is outstanding, or the
first tick comes within the timeout of the last pong, so that it sends one (`hout`; automatically true when
`interval + J ≤ timeout`, see `detection_bound_of_slack`; NOT droppable, see `fresh_late_first_tick_exceeds_bound`).
The tick list is long enough to reach beyond lastPong + timeout (`hlong`).

Then the action list contains `.recycle`; the FIRST `.recycle` is produced by a tick at a time `t` with
`lastPong + timeout < t ≤ lastPong + timeout + interval + J`; and no tick at a time ≤ lastPong + timeout recycles. -/
theorem detection_bound (cfg : Cfg) (J : Nat) (k : K) (ticks : List Nat)
    (hgen : k.nextId ≠ 0)
    (hout : k.lastId ≠ 0 ∨ ∃ t ts, ticks = t :: ts ∧ t ≤ k.lastPong + cfg.timeout)
    (hsp : Spaced (cfg.interval + J) k.lastPong ticks)
    (hlong : ∃ t ∈ ticks, k.lastPong + cfg.timeout < t) :
    Act.recycle ∈ (runK cfg k (ticks.map .tick)).2 ∧
    (∃ (i t : Nat), ticks[i]? = some t ∧ (runK cfg k (ticks.map .tick)).2[i]? = some Act.recycle ∧
      (∀ j : Nat, j < i → (runK cfg k (ticks.map .tick)).2[j]? ≠ some Act.recycle) ∧
      k.lastPong + cfg.timeout < t ∧ t ≤ k.lastPong + cfg.timeout + cfg.interval + J) ∧
    (∀ (i t : Nat), ticks[i]? = some t → t ≤ k.lastPong + cfg.timeout →
      (runK cfg k (ticks.map .tick)).2[i]? ≠ some Act.recycle) := by
  obtain ⟨t, ⟨i, h1, h2, h3⟩, h4, h5⟩ : ∃ t, FirstRecycleAt ticks (runK cfg k (ticks.map .tick)).2 t ∧
      k.lastPong + cfg.timeout < t ∧ t ≤ k.lastPong + cfg.timeout + cfg.interval + J := by
    rcases hout with hid | ⟨t0, ts, rfl, ht0⟩
    · obtain ⟨t, h1, h2, h3⟩ := detect_core rfl hid hgen hsp hlong
      exact ⟨t, h1, h2, by omega⟩
    · -- the first tick, within the timeout, sends a ping whether or not one is outstanding
      obtain ⟨t, h1, h2, h3⟩ := detect_after_ping hgen (checkFails_eq_false ht0) hsp.2
        (by simpa [Nat.not_lt.mpr ht0] using hlong)
      exact ⟨t, h1, h2, by omega⟩
  exact ⟨List.mem_of_getElem? h2, ⟨i, t, h1, h2, h3, h4, h5⟩, no_early_recycle cfg ticks k⟩

/-- the usual configuration `interval + J ≤ timeout`: hypothesis `hout` of `detection_bound` holds by itself, also
for a fresh connection on which no ping has been sent yet -/
theorem detection_bound_of_slack (cfg : Cfg) (J : Nat) (k : K) (ticks : List Nat)
    (hgen : k.nextId ≠ 0) (hslack : cfg.interval + J ≤ cfg.timeout)
    (hsp : Spaced (cfg.interval + J) k.lastPong ticks)
    (hlong : ∃ t ∈ ticks, k.lastPong + cfg.timeout < t) :
    Act.recycle ∈ (runK cfg k (ticks.map .tick)).2 ∧
    (∃ (i t : Nat), ticks[i]? = some t ∧ (runK cfg k (ticks.map .tick)).2[i]? = some Act.recycle ∧
      (∀ j : Nat, j < i → (runK cfg k (ticks.map .tick)).2[j]? ≠ some Act.recycle) ∧
      k.lastPong + cfg.timeout < t ∧ t ≤ k.lastPong + cfg.timeout + cfg.interval + J) ∧
    (∀ (i t : Nat), ticks[i]? = some t → t ≤ k.lastPong + cfg.timeout →
      (runK cfg k (ticks.map .tick)).2[i]? ≠ some Act.recycle) := by
  refine detection_bound cfg J k ticks hgen ?_ hsp hlong
  right
  cases ticks with
  | nil => obtain ⟨t, hm, _⟩ := hlong; simp at hm
  | cons t0 ts => exact ⟨t0, ts, rfl, by have := hsp.1; omega⟩

/-- non-vacuity, interval 200, timeout 500, J 30, last pong at 1000, no ping outstanding at the start: the ticks
1230, 1460 send pings, the tick 1690 ∈ (1500, 1730] is the first to recycle -/
example : (runK ⟨200, 500⟩ ⟨0, 1000, 1⟩ ([1230, 1460, 1690, 1920].map .tick)).2 =
    [.ping 1, .ping 2, .recycle, .recycle] := by decide

example : Spaced (200 + 30) 1000 [1230, 1460, 1690, 1920] := by decide

/-- the hypotheses of `detection_bound` are satisfiable together (the instance above) -/
example : Act.recycle ∈ (runK ⟨200, 500⟩ ⟨0, 1000, 1⟩ ([1230, 1460, 1690, 1920].map .tick)).2 :=
  (detection_bound ⟨200, 500⟩ 30 ⟨0, 1000, 1⟩ [1230, 1460, 1690, 1920] (by decide)
    (Or.inr ⟨1230, _, rfl, by decide⟩) (by decide) ⟨1690, by decide, by decide⟩).1

/-- `hout` cannot be dropped: timeout 100 < interval 200, fresh connection (no ping outstanding), J = 0. The first
tick (200) is already beyond lastPong + timeout but only sends the first ping; the recycle comes at 400, later than
lastPong + timeout + interval + J = 300 (and within the bound 400 of `detection_bound_fresh`). -/
theorem fresh_late_first_tick_exceeds_bound :
    Spaced (200 + 0) 0 [200, 400] ∧
    (runK ⟨200, 100⟩ ⟨0, 0, 1⟩ ([200, 400].map .tick)).2 = [.ping 1, .recycle] ∧ 0 + 100 + 200 + 0 < 400 := by
  decide

/-- A healthy peer observed with slack. `HealthyJ cfg J L r u es`:
* `r` = time of the latest event so far (tick, pong, recovery; initially the start of the pong clock);
* `u` = time of the OLDEST tick whose ping was sent since the last pong/recovery (`none`: no ping since then);
* every tick comes at most `interval + J` after the latest event — in particular every real schedule whose ticks are
  at most `interval + J` apart qualifies, since the events between two ticks are not earlier than the first of them;
* `L`: at every tick the oldest ping sent since the last pong is at most `L` old. Every peer that answers each ping
  within `L` qualifies (the pong of that ping is still to come, at a time ≥ the tick and ≤ ping time + L). A pong MAY
  arrive after the next tick(s): the event list may contain several ticks in a row. A peer whose pongs always arrive
  before the next tick qualifies with `L = 0`, whatever its latency.
No assumption that the times in the list are monotone is needed. -/
def HealthyJ (cfg : Cfg) (J L : Nat) : Nat → Option Nat → List Ev → Prop
  | _, _, [] => True
  | r, u, .tick t :: es =>
      t ≤ r + cfg.interval + J ∧ (∀ u0, u = some u0 → t ≤ u0 + L) ∧ HealthyJ cfg J L t (u.or (some t)) es
  | _, _, .pong t :: es => HealthyJ cfg J L t none es
  | _, _, .recovered t :: es => HealthyJ cfg J L t none es

/-- invariant form: `r` is not later than the last pong while no ping is pending; the oldest pending ping was sent at
most `interval + J` after the last pong -/
theorem no_false_positive_jitter_gen {cfg : Cfg} {J L : Nat} (hc : cfg.interval + J + L ≤ cfg.timeout) {es : List Ev} {k : K}
    {r : Nat} {u : Option Nat} (hn : u = none → r ≤ k.lastPong) (hs : ∀ u0, u = some u0 → u0 ≤ k.lastPong + cfg.interval + J)
    (h : HealthyJ cfg J L r u es) : Act.recycle ∉ (runK cfg k es).2 := by
  induction es generalizing k r u with
  | nil => simp [runK]
  | cons e es ih =>
    cases e with
    | tick t =>
      obtain ⟨h1, h2, h3⟩ := h
      cases u with
      | none =>
        have := hn rfl
        rw [runK_tick_ok (checkFails_eq_false (by omega))]
        simpa using ih (k := { k with lastId := k.nextId, nextId := k.nextId + 1 }) (by simp)
          (fun u0 hu0 => by cases hu0; show t ≤ k.lastPong + cfg.interval + J; omega) h3
      | some u0 =>
        have := hs u0 rfl
        have := h2 u0 rfl
        rw [runK_tick_ok (checkFails_eq_false (by omega))]
        simpa using ih (k := { k with lastId := k.nextId, nextId := k.nextId + 1 }) (by simp) hs h3
    | pong t =>
      rw [runK_pong]
      exact ih (fun _ => Nat.le_refl _) (by simp) h
    | recovered t =>
      rw [runK_recovered]
      exact ih (fun _ => Nat.le_refl _) (by simp) h

/-- C15: if `interval + J + L ≤ timeout` — tick slack `J`, and at no tick a ping older
than `L` is still unanswered — a healthy peer is NEVER recycled, whatever recoveries happen in between, also when
pongs arrive after the next tick. For a peer that answers before the next tick (`L = 0`) the condition is
`interval + J ≤ timeout`: the configured timeout must exceed the interval by the scheduling slack. -/
theorem no_false_positive_jitter (cfg : Cfg) (J L : Nat) (hc : cfg.interval + J + L ≤ cfg.timeout)
    (k : K) (es : List Ev) (h : HealthyJ cfg J L k.lastPong none es) : Act.recycle ∉ (runK cfg k es).2 :=
  no_false_positive_jitter_gen hc (fun _ => Nat.le_refl _) (by simp) h

/-- `HealthyJ` generalises `Healthy` (J = 0, L = 0: on-time ticks, every pong before the next tick): so
`no_false_positive` is the instance J = L = 0 of `no_false_positive_jitter` -/
theorem healthy_healthyJ (cfg : Cfg) (p : Nat) (es : List Ev) (h : Healthy cfg p es) :
    HealthyJ cfg 0 0 p none es := by
  induction h with
  | nil => simp [HealthyJ]
  | @round p t t' es' h1 _ _ ih => exact ⟨by omega, by simp, ih⟩
  | @recovered p t es' _ ih => exact ih

/-- C15: with timeout ≥ interval a peer that answers every heartbeat is never
    recycled by keepalive — whatever recoveries happen in between -/
theorem no_false_positive (cfg : Cfg) (hc : cfg.interval ≤ cfg.timeout) (p : Nat) (es : List Ev)
    (h : Healthy cfg p es) : ∀ (k : K), k.lastPong = p → Act.recycle ∉ (runK cfg k es).2 :=
  fun k hk => no_false_positive_jitter cfg 0 0 (by omega) k es (hk ▸ healthy_healthyJ cfg p es h)

/-- non-vacuity with latency ABOVE the interval (interval 200, J 30, L 250, timeout 500 ≥ 480): ping 1 (tick 200) is
answered at 450, after tick 420; ping 2 at 660, after tick 640; ping 3 at 700 -/
example : HealthyJ ⟨200, 500⟩ 30 250 0 none
    [.tick 200, .tick 420, .pong 450, .tick 640, .pong 660, .pong 700, .tick 860] := by
  simp [HealthyJ]

example : (runK ⟨200, 500⟩ ⟨0, 0, 1⟩
    [.tick 200, .tick 420, .pong 450, .tick 640, .pong 660, .pong 700, .tick 860]).2 =
    [.ping 1, .ping 2, .ping 3, .ping 4] := by decide

/-- SHARPNESS, the premise "timeout ≥ interval" of C15 is not enough under jitter: timeout = interval = 200; the peer
answers the ping of tick 200 after 5 ms; the next tick is 10 ms late (410). The peer is healthy with slack J = 10
(`HealthyJ … 10 0`), yet `check()` sees 410 − 205 = 205 > 200 and recycles. True of the Go code: `time.Since(lastPongAt)`
at a late tick exceeds `Keepalive` as soon as the tick is later than the pong latency. -/
theorem timeout_eq_interval_needs_slack :
    HealthyJ ⟨200, 200⟩ 10 0 0 none [.tick 200, .pong 205, .tick 410] ∧
    (runK ⟨200, 200⟩ ⟨0, 0, 1⟩ [.tick 200, .pong 205, .tick 410]).2 = [.ping 1, .recycle] := by
  refine ⟨by simp [HealthyJ], by decide⟩

/-- the condition `interval + J + L ≤ timeout` is tight for `HealthyJ`: interval 200, J 30, L 50,
timeout 279 = 200 + 30 + 50 − 1. Ping 1 (tick 230) is answered at once, tick 460 sends ping 2, the tick 510 sees ping 2
unanswered for 50 ≤ L — and recycles, because the last pong is 280 > 279 old. -/
theorem jitter_condition_tight :
    HealthyJ ⟨200, 279⟩ 30 50 0 none [.tick 230, .pong 230, .tick 460, .tick 510] ∧
    (runK ⟨200, 279⟩ ⟨0, 0, 1⟩ [.tick 230, .pong 230, .tick 460, .tick 510]).2 = [.ping 1, .ping 2, .recycle] := by
  refine ⟨by simp [HealthyJ], by decide⟩

end OAP.Keepalive
