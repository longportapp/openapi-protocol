/-
C15: the keepalive bookkeeping (go/client/client.go, `keepalive()`) as a timed sequential model.
Times are natural numbers (ms), carried by the events.
Not modelled, both about `ping()`: it returns WITHOUT sending (and without recording an id) while `c.doReconnectting` is set or
`c.conn == nil`, whereas `step` pings at every tick whose check passes — the model has no recovery in progress; and the loop
also recycles the connection when `ping()` returns an error (e.g. "write queue full"), a cause of `.recycle` that `step`
does not have (it recycles on `checkFails` only): `no_false_positive` and `no_false_positive_jitter` (both in
KeepaliveBounds.lean) are silent about it.
-/
namespace OAP.Keepalive

structure Cfg where
  interval : Nat
  timeout : Nat
deriving Repr

structure K where
  lastId : Nat          -- id of the last ping sent, 0 = none since the last recovery. A pong does not clear it (as in `handlePong`):
                        -- "a ping is outstanding" below means `lastId ≠ 0`, a ping has been sent on this connection, answered or not
  lastPong : Nat        -- time of the last pong (initially the start time)
  nextId : Nat          -- request-id generator of the connection
deriving Repr

inductive Ev
  | tick (t : Nat)
  | pong (t : Nat)
  | recovered (t : Nat)     -- a successful re-dial (any path: resume, re-auth, no auth)
deriving Repr

inductive Act
  | ping (id : Nat)
  | recycle
deriving DecidableEq, Repr

/-- `check()` of keepalive -/
def checkFails (cfg : Cfg) (k : K) (t : Nat) : Bool := k.lastId != 0 && decide (t - k.lastPong > cfg.timeout)

def step (cfg : Cfg) (k : K) : Ev → K × List Act
  | .tick t =>
      if checkFails cfg k t then (k, [.recycle])
      else ({ k with lastId := k.nextId, nextId := k.nextId + 1 }, [.ping k.nextId])
  | .pong t => ({ k with lastPong := t }, [])
  | .recovered t => ({ k with lastId := 0, lastPong := t, nextId := 1 }, [])   -- fresh connection: ids restart, bookkeeping cleared, the pong clock restarts

def runK (cfg : Cfg) : K → List Ev → K × List Act
  | k, [] => (k, [])
  | k, e :: es =>
    let (k', a) := step cfg k e
    let (k'', a') := runK cfg k' es
    (k'', a ++ a')

/-- a healthy peer: every tick at time t comes no later than one interval after the last pong and is followed by its pong at
    t' with t ≤ t' -/
inductive Healthy (cfg : Cfg) : Nat → List Ev → Prop      -- first argument: time of the last pong
  | nil {p} : Healthy cfg p []
  | round {p t t' es} : t ≤ p + cfg.interval → t ≤ t' → Healthy cfg t' es → Healthy cfg p (.tick t :: .pong t' :: es)
  | recovered {p t es} : Healthy cfg t es → Healthy cfg p (.recovered t :: es)

/-- the check fails exactly when a ping is outstanding and the last pong (or the (re)start of the connection) is more than the
    timeout ago — so ANY peer whose pongs keep arriving at most `timeout` apart is never recycled, whatever its latency -/
theorem check_fails_iff (cfg : Cfg) (k : K) (t : Nat) :
    checkFails cfg k t = true ↔ (k.lastId ≠ 0 ∧ k.lastPong + cfg.timeout < t) := by
  simp only [checkFails, Bool.and_eq_true, bne_iff_ne, ne_eq, decide_eq_true_eq]
  constructor
  · intro ⟨h1, h2⟩; exact ⟨h1, by omega⟩
  · intro ⟨h1, h2⟩; exact ⟨h1, by omega⟩

/-- C15: while a ping is outstanding, a tick later than lastPong + timeout recycles the connection (when the first such
    tick comes is `detection_bound`) -/
theorem detects_dead (cfg : Cfg) (k : K) (t : Nat) (hid : k.lastId ≠ 0) (ht : k.lastPong + cfg.timeout < t) :
    (step cfg k (.tick t)).2 = [.recycle] := by
  simp [step, (check_fails_iff cfg k t).mpr ⟨hid, ht⟩]

theorem checkFails_eq_false {cfg : Cfg} {k : K} {t : Nat} (h : t ≤ k.lastPong + cfg.timeout) :
    checkFails cfg k t = false :=
  Bool.eq_false_iff.mpr fun hc => by have := (check_fails_iff cfg k t).mp hc; omega

theorem runK_tick_ok {cfg : Cfg} {k : K} {t : Nat} {es : List Ev} (h : checkFails cfg k t = false) :
    (runK cfg k (.tick t :: es)).2 =
      .ping k.nextId :: (runK cfg { k with lastId := k.nextId, nextId := k.nextId + 1 } es).2 := by
  simp [runK, step, h]

theorem runK_tick_fail {cfg : Cfg} {k : K} {t : Nat} {es : List Ev} (h : checkFails cfg k t = true) :
    (runK cfg k (.tick t :: es)).2 = .recycle :: (runK cfg k es).2 := by
  simp [runK, step, h]

theorem runK_pong (cfg : Cfg) (k : K) (t : Nat) (es : List Ev) :
    (runK cfg k (.pong t :: es)).2 = (runK cfg { k with lastPong := t } es).2 := by
  simp [runK, step]

theorem runK_recovered (cfg : Cfg) (k : K) (t : Nat) (es : List Ev) :
    (runK cfg k (.recovered t :: es)).2 = (runK cfg { k with lastId := 0, lastPong := t, nextId := 1 } es).2 := by
  simp [runK, step]

theorem no_recycle_within_timeout {cfg : Cfg} {es : List Ev} {k : K}
    (hq : ∀ e ∈ es, ∃ u, e = .tick u ∧ u ≤ k.lastPong + cfg.timeout) : Act.recycle ∉ (runK cfg k es).2 := by
  induction es generalizing k with
  | nil => simp [runK]
  | cons e es ih =>
    obtain ⟨u, rfl, hu⟩ := hq _ List.mem_cons_self
    rw [runK_tick_ok (checkFails_eq_false hu)]
    simpa using ih (k := { k with lastId := k.nextId, nextId := k.nextId + 1 }) fun e he => hq e (List.mem_cons_of_mem _ he)

/-- after EVERY recovery the clock restarts: no tick within `timeout` of the re-dial can recycle the fresh connection,
    however slowly its first pong arrives (defect D21 of the tree before the repair: the stale clock of the dead connection
    was kept, so a peer answering slower than one interval was declared dead at the second tick, again and again) -/
theorem after_recovery_grace (cfg : Cfg) (k : K) (r t : Nat) (ht : t ≤ r + cfg.timeout) (acts : List Ev)
    (hq : ∀ e ∈ acts, ∃ u, e = .tick u ∧ u ≤ r + cfg.timeout) :
    Act.recycle ∉ (runK cfg (step cfg k (.recovered r)).1 (acts ++ [.tick t])).2 := by
  refine no_recycle_within_timeout fun e he => ?_
  rcases List.mem_append.mp he with he | he
  · exact hq e he
  · exact ⟨t, by simpa using he, ht⟩

/-- every ping carries a fresh id (ids strictly increase between recoveries) -/
theorem ping_fresh (cfg : Cfg) (k : K) (t : Nat) (h : checkFails cfg k t = false) :
    (step cfg k (.tick t)).2 = [.ping k.nextId] ∧ (step cfg k (.tick t)).1.nextId = k.nextId + 1 ∧
    (step cfg k (.tick t)).1.lastId = k.nextId := by
  simp [step, h]

/-- the pinned tree's defect, as a decided counter-example of the un-repaired rule (recovery leaves
    lastId in place): a healthy peer is recycled at the first tick after a recovery -/
def stepPinned (cfg : Cfg) (k : K) : Ev → K × List Act
  | .recovered _ => ({ k with nextId := 1 }, [])       -- non-resume path: bookkeeping NOT cleared
  | e => step cfg k e

example : (stepPinned ⟨100, 200⟩ (stepPinned ⟨100, 200⟩ ⟨5, 1000, 6⟩ (.recovered 5000)).1 (.tick 5100)).2 = [.recycle] := by
  decide

end OAP.Keepalive
