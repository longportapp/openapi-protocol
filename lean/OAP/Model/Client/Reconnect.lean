/-
C08: the recovery decision logic (`reconnect` and its retry loop) as a pure function over per-attempt environment
outcomes, and its theorems for all outcome sequences and all configurations.
Left out of the code: the `closed()` tests (top of every iteration, before the callback), an `AuthTokenGetter` error or a nil
getter (go/client/client.go:220-227), `Unmarshal` failures; `doAuth` logs `.sendAuth` on every failing path.
-/
namespace OAP.Reconnect

inductive Req          -- what happens to one auth/resume request
  | ok (expires : Nat)       -- status 0 with a session expiring at `expires` (ms)
  | unauthenticated
  | otherStatus
  | noAnswer                 -- silence or connection dropped before the answer
deriving DecidableEq, Repr

structure Env where          -- the environment's choices for one attempt
  now : Nat                  -- clock (ms) when the attempt decides expiry
  dialOk : Bool
  first : Req                -- answer to the first request of the attempt (resume or auth)
  second : Req               -- answer to the fallback auth after an unauthenticated resume
deriving DecidableEq, Repr

structure Cfg where
  maxReconnect : Nat         -- 0 = unlimited
  hasToken : Bool
deriving DecidableEq, Repr

structure RS where
  session : Option Nat       -- stored session's expiry (ms), none = never authenticated
  count : Nat
deriving DecidableEq, Repr

inductive Act
  | closeOld | failWaiters | dial | resetKeepalive
  | sendReconnect | sendAuth | setAuth (expires : Nat) | resetCount
  | afterReconnected | sleep | closeClientHitMax
deriving DecidableEq, Repr

inductive Result | success | fail | hitMax
deriving DecidableEq, Repr

/-- isAuthExpired: ten seconds of safety margin -/
def expired (now expires : Nat) : Bool := decide (expires ≤ now + 10000)

def doAuth (cfg : Cfg) (st : RS) (r : Req) : RS × List Act × Result :=
  if !cfg.hasToken then (st, [], .success)
  else match r with
    | .ok e => ({ st with session := some e }, [.sendAuth, .setAuth e], .success)
    | _ => (st, [.sendAuth], .fail)

/-- one iteration of the retry loop: `reconnect()` -/
def attempt (cfg : Cfg) (st : RS) (env : Env) : RS × List Act × Result :=
  if cfg.maxReconnect > 0 ∧ st.count ≥ cfg.maxReconnect then (st, [], .hitMax)
  else
    let st := { st with count := st.count + 1 }
    let pre := [Act.closeOld, .failWaiters, .dial]
    if !env.dialOk then (st, pre, .fail)
    else
      let pre := pre ++ [.resetKeepalive]
      match st.session with
      | none => (st, pre, .success)
      | some exp =>
        if expired env.now exp then
          let (st', a, r) := doAuth cfg st env.first
          (st', pre ++ a, r)
        else
          match env.first with
          | .ok e => ({ session := some e, count := 0 }, pre ++ [.sendReconnect, .setAuth e, .resetCount], .success)
          | .unauthenticated =>
              let (st', a, r) := doAuth cfg st env.second
              (st', pre ++ [.sendReconnect] ++ a, r)
          | _ => (st, pre ++ [.sendReconnect], .fail)

/-- the retry loop over the environment's outcome sequence -/
def recover (cfg : Cfg) : RS → List Env → RS × List Act × Option Result
  | st, [] => (st, [], none)                       -- still retrying when the script ends
  | st, e :: es =>
    match attempt cfg st e with
    | (st', a, .success) => (st', a ++ [.afterReconnected], some .success)
    | (st', a, .hitMax) => (st', a ++ [.closeClientHitMax], some .hitMax)
    | (st', a, .fail) =>
      let (st'', a', r) := recover cfg st' es
      (st'', a ++ [.sleep] ++ a', r)

/-- all that the facts about one attempt need of `doAuth` -/
theorem doAuth_spec (cfg : Cfg) (st : RS) (r : Req) :
    (∀ a ∈ (doAuth cfg st r).2.1, a = .sendAuth ∨ ∃ e, a = .setAuth e) ∧ (doAuth cfg st r).2.2 ≠ .hitMax := by
  unfold doAuth
  cases cfg.hasToken <;> cases r <;> simp

/-- every path of an attempt at once: it gives up exactly at the maximum, and the actions it logs, in order. `auth` is
what the authentication exchange logged, if the path has one (`doAuth`, or the stored answer of a successful resume). -/
theorem attempt_acts (cfg : Cfg) (st : RS) (env : Env) :
    ((attempt cfg st env).2.2 = .hitMax ↔ cfg.maxReconnect > 0 ∧ st.count ≥ cfg.maxReconnect) ∧
    ∃ auth : List Act, (∀ a ∈ auth, a = .resetCount ∨ a = .sendAuth ∨ ∃ e, a = .setAuth e) ∧
      (attempt cfg st env).2.1 =
        if cfg.maxReconnect > 0 ∧ st.count ≥ cfg.maxReconnect then [] else
          [.closeOld, .failWaiters, .dial] ++
            if env.dialOk then
              [.resetKeepalive] ++ (if st.session.any (fun exp => !expired env.now exp) then [.sendReconnect] else []) ++ auth
            else [] := by
  unfold attempt
  by_cases hm : cfg.maxReconnect > 0 ∧ st.count ≥ cfg.maxReconnect
  · exact ⟨by simp [hm], [], by simp, by simp [hm]⟩
  simp only [hm, ↓reduceIte]
  cases hd : env.dialOk
  · exact ⟨by simp, [], by simp, by simp⟩
  cases hs : st.session with
  | none => exact ⟨by simp, [], by simp, by simp⟩
  | some exp =>
    have hA := doAuth_spec cfg ⟨some exp, st.count + 1⟩
    by_cases he : expired env.now exp = true
    · exact ⟨by simpa [he] using (hA env.first).2, _, fun a ha => .inr ((hA env.first).1 a ha), by simp [he]⟩
    · cases hf : env.first with
      | ok e => exact ⟨by simp [he], [.setAuth e, .resetCount], by simp, by simp [he]⟩
      | unauthenticated => exact ⟨by simpa [he] using (hA env.second).2, _, fun a ha => .inr ((hA env.second).1 a ha), by simp [he]⟩
      | otherStatus | noAnswer => exact ⟨by simp [he], [], by simp, by simp [he]⟩

theorem uses_session_iff_unexpired (cfg : Cfg) (st : RS) (env : Env) :
    Act.sendReconnect ∈ (attempt cfg st env).2.1 ↔
      (¬ (cfg.maxReconnect > 0 ∧ st.count ≥ cfg.maxReconnect)) ∧ env.dialOk = true ∧
      ∃ exp, st.session = some exp ∧ expired env.now exp = false := by
  obtain ⟨_, auth, ha, h⟩ := attempt_acts cfg st env
  have h1 : Act.sendReconnect ∉ auth := fun hx => by simpa using ha _ hx
  simp [h, h1, Option.any_eq_true]

theorem fallback_on_unauthenticated (cfg : Cfg) (st : RS) (env : Env) (exp : Nat)
    (hm : ¬ (cfg.maxReconnect > 0 ∧ st.count ≥ cfg.maxReconnect)) (hd : env.dialOk = true)
    (hs : st.session = some exp) (he : expired env.now exp = false)
    (hu : env.first = .unauthenticated) (ht : cfg.hasToken = true) :
    Act.sendAuth ∈ (attempt cfg st env).2.1 ∧
    ((attempt cfg st env).2.2 = .success ↔ ∃ e, env.second = .ok e) := by
  unfold attempt doAuth
  cases h2 : env.second <;> simp [hm, hd, hs, he, hu, ht]

theorem hitmax_iff (cfg : Cfg) (st : RS) (env : Env) :
    (attempt cfg st env).2.2 = .hitMax ↔ (cfg.maxReconnect > 0 ∧ st.count ≥ cfg.maxReconnect) :=
  (attempt_acts cfg st env).1

theorem old_closed_first (cfg : Cfg) (st : RS) (env : Env)
    (hm : ¬ (cfg.maxReconnect > 0 ∧ st.count ≥ cfg.maxReconnect)) :
    ∃ rest, (attempt cfg st env).2.1 = [.closeOld, .failWaiters, .dial] ++ rest := by
  obtain ⟨_, auth, _, h⟩ := attempt_acts cfg st env
  exact ⟨_, h.trans (if_neg hm)⟩

theorem attempt_no_cb (cfg : Cfg) (st : RS) (env : Env) :
    Act.afterReconnected ∉ (attempt cfg st env).2.1 := by
  obtain ⟨_, auth, ha, h⟩ := attempt_acts cfg st env
  have h1 : Act.afterReconnected ∉ auth := fun hx => by simpa using ha _ hx
  simp [h, h1]

/-- the after-reconnect callback is reported exactly when the loop ended with a successful attempt,
    and then it is the last action; hit-max ends with the close and never reports a reconnect -/
theorem after_cb_only_on_success (cfg : Cfg) : ∀ (es : List Env) (st : RS),
    ((recover cfg st es).2.2 = some .success → (recover cfg st es).2.1.getLast? = some .afterReconnected) ∧
    ((recover cfg st es).2.2 = some .hitMax → (recover cfg st es).2.1.getLast? = some .closeClientHitMax) ∧
    ((recover cfg st es).2.2 ≠ some .success → Act.afterReconnected ∉ (recover cfg st es).2.1) := by
  intro es st
  fun_induction recover cfg st es with
  | case1 => simp
  | case2 => simp
  | case3 st e es st' a hat => simpa [hat] using attempt_no_cb cfg st e
  | case4 st e es st' a hat st'' a' r hrec ih =>
    have hno : Act.afterReconnected ∉ a := by simpa [hat] using attempt_no_cb cfg st e
    rw [hrec] at ih
    obtain ⟨t1, t2, t3⟩ := ih
    refine ⟨fun h => ?_, fun h => ?_, fun h => ?_⟩
    · simp [List.getLast?_append, List.getLast?_cons, t1 h]
    · simp [List.getLast?_append, List.getLast?_cons, t2 h]
    · simp [hno, t3 h]

end OAP.Reconnect
