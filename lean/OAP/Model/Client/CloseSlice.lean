/-
Slice of the Lifecycle view (DESIGN.md Appendix B): Close vs re-dial.
Threads: any number of Close callers, any number of retry goroutines doing `dial`
(single-flight is a separate invariant), readers-writer lock `mu`, the close signal, close Once.
Proved for every interleaving: the close callback runs at most once, and no dial succeeds
after a Close call has returned (L1 and the connection-attempt half of L7).
Left out of the code: `c.conn.Close(…)` inside Close's read-locked section is a step without effect (`inR`; what
it sets off is view Quartet), and of the retry goroutine only its calls of `dial` are here — not the rest of its loop, not
the hit-max `Close` (view Recovery). The lock has no writer preference (a pending `Lock()` does not refuse `RLock`: view
LockWait has that); it only removes steps, the safety results here do not depend on it.
-/
import OAP.LTS
namespace OAP.CloseSlice

inductive Once | free | held (t : Nat) | done
deriving DecidableEq, Repr

/-- program counter of a `Close` caller -/
inductive CPc
  | start        -- before closeOnce.Do
  | signal       -- inside Once: about to close(closeCh)
  | wantR        -- about to RLock
  | inR          -- holding the read lock: closes the current conn
  | cb           -- read lock released: about to run the callback
  | finish       -- about to leave the Once
  | ret          -- Close has returned
deriving DecidableEq, Repr

/-- program counter of a retry goroutine inside `dial` -/
inductive DPc
  | idle         -- outside dial
  | wantW        -- about to Lock
  | check        -- holding the write lock: about to test the close signal
  | dialing      -- holding the write lock, signal seen open: dialer running
  | unlock       -- about to Unlock
deriving DecidableEq, Repr

structure St where
  closedSig : Bool
  closeOnce : Once
  onCloseCalls : Nat
  readers : Nat
  writer : Bool
  closer : Nat → CPc
  dialer : Nat → DPc
  anyReturned : Bool          -- ghost: some Close call has returned
  dialsAfterReturn : Nat      -- ghost: successful dials while some Close had returned

def upd {α} (f : Nat → α) (k : Nat) (v : α) : Nat → α := fun x => if x = k then v else f x
@[simp] theorem upd_same {α} (f : Nat → α) k v : upd f k v k = v := by simp [upd]
@[simp] theorem upd_other {α} (f : Nat → α) k v x (h : x ≠ k) : upd f k v x = f x := by simp [upd, h]

inductive Act
  | c (t : Nat)                 -- a Close caller takes its next step
  | d (t : Nat) (ok : Bool)     -- a dialer takes its next step (ok = environment's dial outcome)

def step (s : St) : Act → Option St
  | .c t =>
    match s.closer t with
    | .start =>
      match s.closeOnce with
      | .free => some { s with closeOnce := .held t, closer := upd s.closer t .signal }
      | .done => some { s with closer := upd s.closer t .ret, anyReturned := true }
      | .held _ => none                                         -- blocks until the holder is done
    | .signal => some { s with closedSig := true, closer := upd s.closer t .wantR }
    | .wantR => if s.writer then none else some { s with readers := s.readers + 1, closer := upd s.closer t .inR }
    | .inR => some { s with readers := s.readers - 1, closer := upd s.closer t .cb }
    | .cb => some { s with onCloseCalls := s.onCloseCalls + 1, closer := upd s.closer t .finish }
    | .finish => some { s with closeOnce := .done, closer := upd s.closer t .ret, anyReturned := true }
    | .ret => none
  | .d t ok =>
    match s.dialer t with
    | .idle => some { s with dialer := upd s.dialer t .wantW }
    | .wantW => if s.writer ∨ s.readers ≠ 0 then none else some { s with writer := true, dialer := upd s.dialer t .check }
    | .check => if s.closedSig then some { s with dialer := upd s.dialer t .unlock }
                else some { s with dialer := upd s.dialer t .dialing }
    | .dialing =>
        some { s with dialer := upd s.dialer t .unlock,
                      dialsAfterReturn := if ok && s.anyReturned then s.dialsAfterReturn + 1 else s.dialsAfterReturn }
    | .unlock => some { s with writer := false, dialer := upd s.dialer t .idle }

def init : St :=
  { closedSig := false, closeOnce := .free, onCloseCalls := 0, readers := 0, writer := false,
    closer := fun _ => .start, dialer := fun _ => .idle, anyReturned := false, dialsAfterReturn := 0 }

def run : St → List Act → Option St
  | s, [] => some s
  | s, a :: as => (step s a).bind (fun s' => run s' as)

theorem isRun : LTS.IsRun step run := ⟨fun _ => rfl, fun _ _ _ => rfl⟩

def inBody : CPc → Prop
  | .signal | .wantR | .inR | .cb | .finish => True
  | _ => False

def holdsW : DPc → Prop
  | .check | .dialing | .unlock => True
  | _ => False

structure LInv (s : St) : Prop where
  onceHeld : ∀ t, inBody (s.closer t) ↔ s.closeOnce = .held t
  retDone : ∀ t, s.closer t = .ret → s.closeOnce = .done
  callsFree : s.closeOnce = .free → s.onCloseCalls = 0
  callsHeld : ∀ t, s.closeOnce = .held t → s.onCloseCalls = (if s.closer t = .finish then 1 else 0)
  callsDone : s.closeOnce = .done → s.onCloseCalls = 1
  retIff : s.anyReturned = true → s.closeOnce = .done
  doneRet : s.closeOnce = .done → ∃ t, s.closer t = .ret
  sigSet : s.closedSig = false → ∀ t, s.closer t = .start ∨ s.closer t = .signal
  wExcl : s.writer = true → s.readers = 0 ∧ ∀ t, s.closer t ≠ .inR
  wHeld : ∀ t, holdsW (s.dialer t) → s.writer = true
  rdHeld : ∀ t, s.closer t = .inR → 0 < s.readers
  wUniq : ∀ t u, holdsW (s.dialer t) → holdsW (s.dialer u) → t = u
  -- the point: while a dialer has seen the signal open, no Close caller is past its read-lock acquisition
  dialing : ∀ t, s.dialer t = .dialing → ∀ u, s.closer u = .start ∨ s.closer u = .signal ∨ s.closer u = .wantR
  ghost : s.dialsAfterReturn = 0

theorem inv_init : LInv init := by
  constructor <;> simp [init, inBody, holdsW]

section
attribute [local grind] upd inBody holdsW

/-- shape of the proof: head of `OAP/LTS.lean` (with all fourteen fields in the context `grind` is three times dearer) -/
theorem inv_step (s : St) (a : Act) (s' : St) (i : LInv s) (hs : step s a = some s') : LInv s' := by
  revert hs
  fun_cases step s a <;> rintro ⟨⟩ <;>
    (constructor
     case onceHeld => first | with_reducible exact i.onceHeld | (have := i.onceHeld; intros; grind)
     case retDone => first | with_reducible exact i.retDone | (have := i.retDone; intros; grind)
     case callsFree => first | with_reducible exact i.callsFree | (have := i.onceHeld; intros; grind)
     case callsHeld => first | with_reducible exact i.callsHeld | (have := i.onceHeld; have := i.callsFree; have := i.callsHeld; intros; grind)
     case callsDone => first | with_reducible exact i.callsDone | (have := i.onceHeld; have := i.callsHeld; intros; grind)
     case retIff => first | with_reducible exact i.retIff | (have := i.retIff; intros; grind)
     case doneRet => first | with_reducible exact i.doneRet | (have := i.doneRet; simp only [upd]; grind)  -- the witness is an instance of `s.closer _`, which `upd` hides
     case sigSet => first | with_reducible exact i.sigSet | (have := i.doneRet; have := i.sigSet; intros; grind)
     case wExcl => first | with_reducible exact i.wExcl | (have := i.wExcl; have := i.rdHeld; intros; grind)
     case wHeld => first | with_reducible exact i.wHeld | (have := i.wHeld; have := i.wUniq; intros; grind)
     case rdHeld => first | with_reducible exact i.rdHeld | (have := i.onceHeld; intros; grind)
     case wUniq => first | with_reducible exact i.wUniq | (have := i.wHeld; have := i.wUniq; intros; grind)
     case dialing => first | with_reducible exact i.dialing | (have := i.doneRet; have := i.sigSet; have := i.wHeld; have := i.dialing; intros; grind)
     case ghost => first | with_reducible exact i.ghost | (have := i.ghost; have := i.retIff; have := i.doneRet; have := i.dialing; intros; grind))
end

theorem inv_step_c_start_free (s : St) (t : Nat) (h : LInv s) (hpc : s.closer t = .start) (ho : s.closeOnce = .free) :
    LInv { s with closeOnce := .held t, closer := upd s.closer t .signal } :=
  inv_step s (.c t) _ h (by simp [step, hpc, ho])

theorem inv_step_c_start_free' (s : St) (t : Nat) (h : LInv s) (hpc : s.closer t = .start) (ho : s.closeOnce = .free) :
    LInv { s with closeOnce := .held t, closer := upd s.closer t .signal } :=
  inv_step_c_start_free s t h hpc ho

theorem inv_reach (acts : List Act) (s : St) (h : run init acts = some s) : LInv s :=
  isRun.inv inv_step acts init s inv_init h

/-- L1: in every interleaving of any number of Close callers, the close callback runs at most once -/
theorem on_close_at_most_once (acts : List Act) (s : St) (h : run init acts = some s) : s.onCloseCalls ≤ 1 := by
  have i := inv_reach acts s h
  cases ho : s.closeOnce with
  | free => rw [i.callsFree ho]; omega
  | held t => rw [i.callsHeld t ho]; split <;> omega
  | done => rw [i.callsDone ho]; omega

/-- L7 (connection attempts): in every interleaving, no dial succeeds after a Close call has returned -/
theorem no_dial_after_close_returned (acts : List Act) (s : St) (h : run init acts = some s) :
    s.dialsAfterReturn = 0 :=
  (inv_reach acts s h).ghost

end OAP.CloseSlice
