/-
Recovery view (C08, C14, C16): `reconnecting` / retry goroutine / `reconnect` / `dial` / `onConnClose` / `Close`
of go/client/client.go, statement by statement, as one labelled transition system.

Threads: any number of notifiers (each reports an arbitrary connection id, 0 = nil, either through
`onConnClose` or by calling `reconnecting` directly), one retry-goroutine slot per notifier (slot t is the
goroutine spawned by notifier t), any number of `Close` callers.  Shared state: the client RWMutex
(`writer` flag / `readers` count, no writer preference), `closeCh` (`closedSig`), `closeOnce`,
`doReconnectting` (`reconn`), the atomic `recovering`, `c.conn` (`cur`, 0 = nil, fresh ids from `nconn`),
`reconnectCount` / `MaxReconnect` (`count` / `maxR`).  Packets, request ids, waiters and bytes are owned by
other views; the requests made by auth / resume are one environment step (outcome ok/fail, resume path or not).

Go statement → model pc (the pc names the statement ABOUT to be executed)

  onConnClose(conn)
    select { case <-c.closeCh: return; default: }            NPc.occ c      closed → done, open → enter c
    c.reconnecting(conn)                                     (falls into enter c)
  reconnecting(conn)
    if c.closed() { return }                                 NPc.enter c    closed → done, open → fast c
    if atomic.LoadInt32(&c.recovering) == 1 { return }       NPc.fast c     1 → done (ghost fastTaken), 0 → wantW c
    c.Lock()                                                 NPc.wantW c    blocked while writer ∨ readers ≠ 0
    if c.doReconnectting || c.conn != conn {                 NPc.locked c   true → skipUnlock, false → setDo c
        c.Unlock(); return }                                 NPc.skipUnlock
    c.doReconnectting = true                                 NPc.setDo c
    atomic.StoreInt32(&c.recovering, 1)                      NPc.setAt c
    c.Unlock()                                               NPc.unlock1 c
    go func() { … }()                                        NPc.spawn c    slot t := RPc.top (ghosts spawns, spawnsOpen, late)
    <-waitCh                                                 NPc.waitRC c   enabled when slot t = fin _; slot := none
    c.Lock()                                                 NPc.wantW2 c
    c.doReconnectting = false                                NPc.clrDo c
    atomic.StoreInt32(&c.recovering, 0)                      NPc.clrAt c
    c.Unlock()                                               NPc.unlock2 c  → done
  retry goroutine
    for { if c.closed() { return }                           RPc.top        closed → fin .closed, open → chkMax
    err := c.reconnect()
      if MaxReconnect > 0 && reconnectCount >= MaxReconnect  RPc.chkMax     true → hmOnce (ErrHitMaxReconnect)
      reconnectCount++                                                      false → count+1, oWantR
      c.RLock()                                              RPc.oWantR     blocked while writer
      old := c.conn; c.RUnlock()                             RPc.oInR
      old.Close(…); fail all waiters                         RPc.closeOld   (no effect in this view)
      c.dial(ctx, dialer):
        c.Lock()                                             RPc.dWantW     blocked while writer ∨ readers ≠ 0
        if c.closed() { return errClientClosed }             RPc.dCheck     closed → dUnlockFail (c.conn untouched), open → dDialing
        c.conn, err = dialer(…)                              RPc.dDialing   env ok: cur := nconn (fresh) → dUnlockOk
                                                                            env fail: cur := 0 (nil)      → dUnlockFail
        c.Unlock() (deferred)                                RPc.dUnlockOk → auth,  RPc.dUnlockFail → sleep
      AuthInfo()==nil / auth() / reconnectDial()             RPc.auth       env ok → cbTest (resume path: count := 0), fail → sleep
    if err == nil { if afterReconnected != nil && !c.closed()  RPc.cbTest   ghost guardSaw := closedSig; closed → fin .success, open → cb
        c.afterReconnected()                                 RPc.cb         afterCalls+1 (and the ghost counters) → fin .success
      return }
    if err == ErrHitMaxReconnect { c.Close(err); return }    RPc.hmOnce …   the Close procedure inline, then fin .hitmax
    time.Sleep(1s) }                                         RPc.sleep      → top
    defer waitCh <- struct{}{}                               RPc.fin e      (blocked in the send until the notifier receives)
  Close(err)   (CPc for a Close caller, RPc.hm… for the retry goroutine's nested call)
    c.closeOnce.Do(func() {                                  start  / hmOnce     free → held, done → return, held → blocked
      close(c.closeCh)                                       signal / hmSignal
      c.RLock()                                              wantR  / hmWantR    blocked while writer
      if c.conn != nil { c.conn.Close(…) }                   inR    / hmInR      (no effect in this view)
      c.RUnlock()                                            unlockR/ hmUnlockR
      if c.onClose != nil { c.onClose(err) }                 cb     / hmCb       onCloseCalls+1
    })                                                       finish / hmFinish   Once := done; return (ghost anyReturned)

Abstractions (all towards MORE behaviour, none needed by a proof):
  * the lock has no writer preference (a pending `Lock` does not stop new `RLock`s);
  * the RLock that `Do` holds during the auth / resume request is not modelled (the request is one environment step);
  * the nested `reconnecting(old)` that `old.Close` / `c.conn.Close` may trigger through the close callback is one of the
    arbitrary notifiers (it returns at the closed test, the fast path or the guard without waiting for anybody);
  * notifier threads make one call each (there are infinitely many of them); the first `Dial` is not modelled
    (connection 1 is established initially); `stateMu` sections are single atomic steps.

Proved for every interleaving (`run (init m) acts = some s →`, every MaxReconnect m):
  1 single_flight                   at most one retry-goroutine slot is occupied
  2 one_recovery_per_loss_partial   (a) open ⇒ spawns c ≤ 1, (b) spawnsOpen c ≤ 1, (c) late goroutines never attempt
    one_recovery_per_loss_false     the unconditional `spawns c ≤ 1` is FALSE of the code (run demoD, by `decide`)
  3 flag_agrees, flag_agrees_locked recovering = doReconnectting unless a notifier is between its two stores
  4 fast_path_no_lock               a notifier that read recovering = 1 never takes the write lock
  5 no_dial_after_close_returned    no connection is installed after a Close call has returned
  6 on_close_at_most_once           user Close calls and the hit-max Close together run the callback at most once
  7 after_cb_guarded, after_cb_not_after_closed_dial   (and demoE: the callback CAN follow a returned Close)
  8 hitmax_closes                   a hit-max exit leaves the signal set and the callback run exactly once
    rw_exclusion                    sanity of the lock model: writer held ⇒ nobody inside a read-locked section
-/
import OAP.LTS
namespace OAP.Recovery

def upd {α} (f : Nat → α) (k : Nat) (v : α) : Nat → α := fun x => if x = k then v else f x

/-- how a retry goroutine left its loop -/
inductive Exit | closed | success | hitmax
deriving DecidableEq, Repr

inductive Once | free | heldC (t : Nat) | heldR (t : Nat) | done
deriving DecidableEq, Repr

/-- notifier: `onConnClose(c)` / `reconnecting(c)` -/
inductive NPc
  | idle
  | occ (c : Nat)        -- onConnClose: about to test the close signal
  | enter (c : Nat)      -- reconnecting: about to test closed()
  | fast (c : Nat)       -- about to load the atomic `recovering`
  | wantW (c : Nat)      -- about to Lock
  | locked (c : Nat)     -- holding the lock: test `doReconnectting || c.conn != conn`
  | skipUnlock           -- holding the lock: Unlock and return
  | setDo (c : Nat)      -- holding the lock: doReconnectting = true
  | setAt (c : Nat)      -- holding the lock: recovering = 1
  | unlock1 (c : Nat)    -- holding the lock: Unlock
  | spawn (c : Nat)      -- about to start the retry goroutine
  | waitRC (c : Nat)     -- <-waitCh
  | wantW2 (c : Nat)     -- about to Lock again
  | clrDo (c : Nat)      -- holding the lock: doReconnectting = false
  | clrAt (c : Nat)      -- holding the lock: recovering = 0
  | unlock2 (c : Nat)    -- holding the lock: Unlock
  | done
deriving DecidableEq, Repr

/-- retry goroutine (one slot per spawner) -/
inductive RPc
  | none
  | top | chkMax | oWantR | oInR | closeOld
  | dWantW | dCheck | dDialing | dUnlockOk | dUnlockFail
  | auth | sleep | cbTest | cb
  | hmOnce | hmSignal | hmWantR | hmInR | hmUnlockR | hmCb | hmFinish
  | fin (e : Exit)
deriving DecidableEq, Repr

/-- `Close` caller -/
inductive CPc
  | start | signal | wantR | inR | unlockR | cb | finish | ret
deriving DecidableEq, Repr

structure St where
  closedSig : Bool
  closeOnce : Once
  onCloseCalls : Nat
  readers : Nat
  writer : Bool
  cur : Nat                  -- c.conn (0 = nil)
  nconn : Nat                -- next fresh connection id
  reconn : Bool              -- doReconnectting
  recovering : Bool          -- atomic mirror
  count : Nat                -- reconnectCount
  maxR : Nat                 -- MaxReconnect (0 = unlimited)
  notif : Nat → NPc
  rc : Nat → RPc
  closer : Nat → CPc
  -- ghosts
  spawns : Nat → Nat         -- retry goroutines ever started for connection c
  spawnsOpen : Nat → Nat     -- … started while the close signal was still open
  late : Nat → Bool          -- slot t's goroutine was started with the close signal already set
  lateAttempts : Nat         -- reconnect() calls made by such goroutines
  fastTaken : Nat → Bool     -- notifier t returned through the atomic fast path
  fastLockReqs : Nat         -- write-lock acquisitions by notifiers that took the fast path
  anyReturned : Bool         -- some Close call has returned
  dialsAfterReturn : Nat     -- connections installed while some Close had returned
  guardSaw : Nat → Bool      -- what slot t's `closed()` guard before the callback returned
  sigAtDial : Nat → Bool     -- the close signal when slot t's last successful dial installed its connection
  afterCalls : Nat           -- after-reconnect callback invocations
  afterUnguarded : Nat       -- … whose guard had returned true
  afterClosedDial : Nat      -- … whose attempt's dial completed with the signal already set
  afterAfterReturn : Nat     -- … made after some Close had returned (CAN be positive, see the example)
  hitmaxExits : Nat          -- retry goroutines that left through the hit-max branch
  rdOnce : Nat               -- read holds of the lock by the Close procedure (inside the Once: 0 or 1)
  rdOld : Nat                -- read holds by `reconnect` picking the old connection (0 or 1)

inductive Act
  | n (t : Nat) (c : Nat) (occ : Bool)     -- notifier step (at idle: reports c, through onConnClose iff occ)
  | r (t : Nat) (ok resume : Bool)         -- retry goroutine of spawner t steps (ok = dial / auth outcome)
  | c (t : Nat)                            -- Close caller step

def stepN (s : St) (t c : Nat) (occ : Bool) : Option St :=
  match s.notif t with
  | .idle => if occ then some { s with notif := upd s.notif t (.occ c) }
             else some { s with notif := upd s.notif t (.enter c) }
  | .occ c => if s.closedSig then some { s with notif := upd s.notif t .done }
              else some { s with notif := upd s.notif t (.enter c) }
  | .enter c => if s.closedSig then some { s with notif := upd s.notif t .done }
                else some { s with notif := upd s.notif t (.fast c) }
  | .fast c => if s.recovering then some { s with notif := upd s.notif t .done, fastTaken := upd s.fastTaken t true }
               else some { s with notif := upd s.notif t (.wantW c) }
  | .wantW c => if s.writer ∨ s.readers ≠ 0 then none
                else some { s with writer := true, notif := upd s.notif t (.locked c),
                                   fastLockReqs := if s.fastTaken t then s.fastLockReqs + 1 else s.fastLockReqs }
  | .locked c => if s.reconn || s.cur != c then some { s with notif := upd s.notif t .skipUnlock }
                 else some { s with notif := upd s.notif t (.setDo c) }
  | .skipUnlock => some { s with writer := false, notif := upd s.notif t .done }
  | .setDo c => some { s with reconn := true, notif := upd s.notif t (.setAt c) }
  | .setAt c => some { s with recovering := true, notif := upd s.notif t (.unlock1 c) }
  | .unlock1 c => some { s with writer := false, notif := upd s.notif t (.spawn c) }
  | .spawn c => some { s with rc := upd s.rc t .top, notif := upd s.notif t (.waitRC c),
                              spawns := upd s.spawns c (s.spawns c + 1),
                              spawnsOpen := upd s.spawnsOpen c (if s.closedSig then s.spawnsOpen c else s.spawnsOpen c + 1),
                              late := upd s.late t s.closedSig }
  | .waitRC c =>
      match s.rc t with
      | .fin _ => some { s with rc := upd s.rc t .none, notif := upd s.notif t (.wantW2 c) }
      | _ => none
  | .wantW2 c => if s.writer ∨ s.readers ≠ 0 then none
                 else some { s with writer := true, notif := upd s.notif t (.clrDo c),
                                    fastLockReqs := if s.fastTaken t then s.fastLockReqs + 1 else s.fastLockReqs }
  | .clrDo c => some { s with reconn := false, notif := upd s.notif t (.clrAt c) }
  | .clrAt c => some { s with recovering := false, notif := upd s.notif t (.unlock2 c) }
  | .unlock2 _ => some { s with writer := false, notif := upd s.notif t .done }
  | .done => none

def stepR (s : St) (t : Nat) (ok resume : Bool) : Option St :=
  match s.rc t with
  | .none => none
  | .top => if s.closedSig then some { s with rc := upd s.rc t (.fin .closed) }
            else some { s with rc := upd s.rc t .chkMax,
                               lateAttempts := if s.late t then s.lateAttempts + 1 else s.lateAttempts }
  | .chkMax => if 0 < s.maxR ∧ s.maxR ≤ s.count then some { s with rc := upd s.rc t .hmOnce }
               else some { s with count := s.count + 1, rc := upd s.rc t .oWantR }
  | .oWantR => if s.writer then none else some { s with readers := s.readers + 1, rc := upd s.rc t .oInR, rdOld := s.rdOld + 1 }
  | .oInR => some { s with readers := s.readers - 1, rc := upd s.rc t .closeOld, rdOld := s.rdOld - 1 }
  | .closeOld => some { s with rc := upd s.rc t .dWantW }
  | .dWantW => if s.writer ∨ s.readers ≠ 0 then none else some { s with writer := true, rc := upd s.rc t .dCheck }
  | .dCheck => if s.closedSig then some { s with rc := upd s.rc t .dUnlockFail }
               else some { s with rc := upd s.rc t .dDialing }
  | .dDialing =>
      if ok then some { s with cur := s.nconn, nconn := s.nconn + 1, rc := upd s.rc t .dUnlockOk,
                               sigAtDial := upd s.sigAtDial t s.closedSig,
                               dialsAfterReturn := if s.anyReturned then s.dialsAfterReturn + 1 else s.dialsAfterReturn }
      else some { s with cur := 0, rc := upd s.rc t .dUnlockFail }
  | .dUnlockOk => some { s with writer := false, rc := upd s.rc t .auth }
  | .dUnlockFail => some { s with writer := false, rc := upd s.rc t .sleep }
  | .auth => if ok then some { s with count := if resume then 0 else s.count, rc := upd s.rc t .cbTest }
             else some { s with rc := upd s.rc t .sleep }
  | .sleep => some { s with rc := upd s.rc t .top }
  | .cbTest => if s.closedSig then some { s with rc := upd s.rc t (.fin .success), guardSaw := upd s.guardSaw t true }
               else some { s with rc := upd s.rc t .cb, guardSaw := upd s.guardSaw t false }
  | .cb => some { s with rc := upd s.rc t (.fin .success), afterCalls := s.afterCalls + 1,
                         afterUnguarded := if s.guardSaw t then s.afterUnguarded + 1 else s.afterUnguarded,
                         afterClosedDial := if s.sigAtDial t then s.afterClosedDial + 1 else s.afterClosedDial,
                         afterAfterReturn := if s.anyReturned then s.afterAfterReturn + 1 else s.afterAfterReturn }
  | .hmOnce =>
      match s.closeOnce with
      | .free => some { s with closeOnce := .heldR t, rc := upd s.rc t .hmSignal }
      | .done => some { s with rc := upd s.rc t (.fin .hitmax), anyReturned := true, hitmaxExits := s.hitmaxExits + 1 }
      | _ => none                                               -- blocks until the holder is done
  | .hmSignal => some { s with closedSig := true, rc := upd s.rc t .hmWantR }
  | .hmWantR => if s.writer then none else some { s with readers := s.readers + 1, rc := upd s.rc t .hmInR, rdOnce := s.rdOnce + 1 }
  | .hmInR => some { s with rc := upd s.rc t .hmUnlockR }
  | .hmUnlockR => some { s with readers := s.readers - 1, rc := upd s.rc t .hmCb, rdOnce := s.rdOnce - 1 }
  | .hmCb => some { s with onCloseCalls := s.onCloseCalls + 1, rc := upd s.rc t .hmFinish }
  | .hmFinish => some { s with closeOnce := .done, rc := upd s.rc t (.fin .hitmax), anyReturned := true,
                               hitmaxExits := s.hitmaxExits + 1 }
  | .fin _ => none

def stepC (s : St) (t : Nat) : Option St :=
  match s.closer t with
  | .start =>
      match s.closeOnce with
      | .free => some { s with closeOnce := .heldC t, closer := upd s.closer t .signal }
      | .done => some { s with closer := upd s.closer t .ret, anyReturned := true }
      | _ => none                                               -- blocks until the holder is done
  | .signal => some { s with closedSig := true, closer := upd s.closer t .wantR }
  | .wantR => if s.writer then none else some { s with readers := s.readers + 1, closer := upd s.closer t .inR, rdOnce := s.rdOnce + 1 }
  | .inR => some { s with closer := upd s.closer t .unlockR }
  | .unlockR => some { s with readers := s.readers - 1, closer := upd s.closer t .cb, rdOnce := s.rdOnce - 1 }
  | .cb => some { s with onCloseCalls := s.onCloseCalls + 1, closer := upd s.closer t .finish }
  | .finish => some { s with closeOnce := .done, closer := upd s.closer t .ret, anyReturned := true }
  | .ret => none

def step (s : St) : Act → Option St
  | .n t c occ => stepN s t c occ
  | .r t ok resume => stepR s t ok resume
  | .c t => stepC s t

/-- initial state: connection 1 is established, MaxReconnect = m -/
def init (m : Nat) : St :=
  { closedSig := false, closeOnce := .free, onCloseCalls := 0, readers := 0, writer := false,
    cur := 1, nconn := 2, reconn := false, recovering := false, count := 0, maxR := m,
    notif := fun _ => .idle, rc := fun _ => .none, closer := fun _ => .start,
    spawns := fun _ => 0, spawnsOpen := fun _ => 0, late := fun _ => false, lateAttempts := 0,
    fastTaken := fun _ => false, fastLockReqs := 0, anyReturned := false, dialsAfterReturn := 0,
    guardSaw := fun _ => false, sigAtDial := fun _ => false, afterCalls := 0, afterUnguarded := 0,
    afterClosedDial := 0, afterAfterReturn := 0, hitmaxExits := 0, rdOnce := 0, rdOld := 0 }

def run : St → List Act → Option St
  | s, [] => some s
  | s, a :: as => (step s a).bind (fun s' => run s' as)

theorem isRun : LTS.IsRun step run := ⟨fun _ => rfl, fun _ _ _ => rfl⟩

/-- the notifier won the guard and has not yet released the lock for the last time -/
def ownsAny : NPc → Prop
  | .setDo _ | .setAt _ | .unlock1 _ | .spawn _ | .waitRC _ | .wantW2 _ | .clrDo _ | .clrAt _ | .unlock2 _ => True
  | _ => False

/-- `doReconnectting` is true on behalf of this notifier -/
def ownsDo : NPc → Prop
  | .setAt _ | .unlock1 _ | .spawn _ | .waitRC _ | .wantW2 _ | .clrDo _ => True
  | _ => False

/-- `recovering` is 1 on behalf of this notifier -/
def ownsAt : NPc → Prop
  | .unlock1 _ | .spawn _ | .waitRC _ | .wantW2 _ | .clrDo _ | .clrAt _ => True
  | _ => False

def isWaitRC : NPc → Prop
  | .waitRC _ => True
  | _ => False

/-- after the goroutine has been received from -/
def isClr : NPc → Prop
  | .wantW2 _ | .clrDo _ | .clrAt _ | .unlock2 _ => True
  | _ => False

def nHoldsW : NPc → Prop
  | .locked _ | .skipUnlock | .setDo _ | .setAt _ | .unlock1 _ | .clrDo _ | .clrAt _ | .unlock2 _ => True
  | _ => False

/-- the two pcs at which exactly one of the two flags has been written -/
def nMid : NPc → Prop
  | .setAt _ | .clrAt _ => True
  | _ => False

def rHoldsW : RPc → Prop
  | .dCheck | .dDialing | .dUnlockOk | .dUnlockFail => True
  | _ => False

/-- the goroutine is inside the Once body of its nested Close -/
def rInBody : RPc → Prop
  | .hmSignal | .hmWantR | .hmInR | .hmUnlockR | .hmCb | .hmFinish => True
  | _ => False

/-- pcs that are only reachable with the close signal set -/
def rNeedsSig : RPc → Prop
  | .hmWantR | .hmInR | .hmUnlockR | .hmCb | .hmFinish => True
  | .fin e => e = .closed ∨ e = .hitmax
  | _ => False

/-- nested Close past its read-lock acquisition -/
def rPostR : RPc → Prop
  | .hmInR | .hmUnlockR | .hmCb | .hmFinish => True
  | .fin e => e = .hitmax
  | _ => False

/-- the goroutine's latest dial installed a connection and nothing failed since -/
def rInstalled : RPc → Prop
  | .dUnlockOk | .auth | .cbTest | .cb => True
  | .fin e => e = .success
  | _ => False

/-- same, still inside the attempt -/
def rAttemptOk : RPc → Prop
  | .dUnlockOk | .auth | .cbTest | .cb => True
  | _ => False

def rLive : RPc → Prop
  | .none => False
  | _ => True

def cInBody : CPc → Prop
  | .signal | .wantR | .inR | .unlockR | .cb | .finish => True
  | _ => False

/-- Close caller not past its read-lock acquisition -/
def cPreR : CPc → Prop
  | .start | .signal | .wantR => True
  | _ => False


theorem do_any {p : NPc} (h : ownsDo p) : ownsAny p := by
  cases p <;> simp_all [ownsDo, ownsAny]
theorem wait_do {p : NPc} (h : isWaitRC p) : ownsDo p := by
  cases p <;> simp_all [isWaitRC, ownsDo]
theorem wait_any {p : NPc} (h : isWaitRC p) : ownsAny p := by
  cases p <;> simp_all [isWaitRC, ownsAny]
theorem any_do_or_w {p : NPc} (h : ownsAny p) : ownsDo p ∨ nHoldsW p := by
  cases p <;> simp_all [ownsAny, ownsDo, nHoldsW]
theorem own_flags {p : NPc} (h : ownsAny p) (hm : ¬ nMid p) : ownsDo p ↔ ownsAt p := by
  cases p <;> simp_all [ownsAny, ownsDo, ownsAt, nMid]
theorem mid_w {p : NPc} (h : nMid p) : nHoldsW p := by
  cases p <;> simp_all [nMid, nHoldsW]
theorem clr_any {p : NPc} (h : isClr p) : ownsAny p := by
  cases p <;> simp_all [isClr, ownsAny]
theorem clr_not_wait {p : NPc} (h : isClr p) : ¬ isWaitRC p := by
  cases p <;> simp_all [isClr, isWaitRC]
theorem postR_sig (p : RPc) (h : rPostR p) : rNeedsSig p := by
  cases p <;> simp_all [rPostR, rNeedsSig]
theorem fin_cases (e : Exit) : rNeedsSig (.fin e) ∨ rInstalled (.fin e) := by
  cases e <;> simp [rNeedsSig, rInstalled]
theorem attempt_inst (p : RPc) (h : rAttemptOk p) : rInstalled p := by
  cases p <;> simp_all [rInstalled, rAttemptOk]

/-! ### the invariant, in layers

Each layer is a predicate on the state COMPONENTS it reads, so a step that writes none of them keeps it by unfolding:
`{ h with … }` in `inv_stepN/R/C` names only the layers an action touches (`RInv.n_move`, `r_step`, `r_move` are the
recurring records).  A layer has one lemma per kind of transition of its own small protocol (a thread moves, acquires,
releases …), proved by `rclose` on that layer alone; thread `t` at pc `p` moving to `q` is given as `hp : f t = p`, and
the side conditions that only compare `p` and `q` are default arguments closed by `simp`. -/

attribute [local simp] ownsAny ownsDo ownsAt isWaitRC isClr nHoldsW rHoldsW rInBody rNeedsSig rPostR rInstalled rAttemptOk
  cInBody cPreR

/-- plain `grind`: what it may unfold is given layer by layer, by the `attribute [local grind]` lines of the layer's namespace -/
macro "rgrind" : tactic => `(tactic| grind)

macro "rclose" h:ident : tactic => `(tactic|
  (cases $h:ident; constructor <;> (try simp only [upd]) <;> (first | assumption | (intros; rgrind))))

/-- retry goroutine inside a read-locked section -/
@[simp] def rRd : RPc → Prop
  | .oInR | .hmInR | .hmUnlockR => True
  | _ => False

/-- the RWMutex: who holds it for writing; every read-locked section is counted -/
structure Lock (notif : Nat → NPc) (rc : Nat → RPc) (closer : Nat → CPc) (w : Bool) (rd rdOnce rdOld : Nat) : Prop where
  wN : ∀ t, nHoldsW (notif t) → w = true
  wR : ∀ t, rHoldsW (rc t) → w = true
  wUniqNN : ∀ t u, nHoldsW (notif t) → nHoldsW (notif u) → t = u
  wUniqRR : ∀ t u, rHoldsW (rc t) → rHoldsW (rc u) → t = u
  wUniqNR : ∀ t u, nHoldsW (notif t) → rHoldsW (rc u) → False
  wExcl : w = true → rd = 0
  rdSum : rd = rdOnce + rdOld
  rdOldIn : ∀ t, rc t = .oInR → 0 < rdOld
  rdOnceC : ∀ t, closer t = .inR ∨ closer t = .unlockR → 0 < rdOnce
  rdOnceR : ∀ t, rc t = .hmInR ∨ rc t = .hmUnlockR → 0 < rdOnce

namespace Lock
variable {notif : Nat → NPc} {rc : Nat → RPc} {closer : Nat → CPc} {w : Bool} {rd o l t : Nat}
  (h : Lock notif rc closer w rd o l)
include h
attribute [local grind] rRd rHoldsW

theorem n_step {p : NPc} (hp : notif t = p) {q : NPc} (hq : nHoldsW q → nHoldsW p := by simp) :
    Lock (upd notif t q) rc closer w rd o l := by
  subst hp; rclose h

theorem n_acq {q : NPc} (hw : ¬ (w = true ∨ rd ≠ 0)) : Lock (upd notif t q) rc closer true rd o l := by
  rclose h

theorem n_rel {p : NPc} (hp : notif t = p) {q : NPc} (hh : nHoldsW p := by simp)
    (hq : ¬ nHoldsW q := by simp) : Lock (upd notif t q) rc closer false rd o l := by
  subst hp; rclose h

theorem r_step {p : RPc} (hp : rc t = p) {q : RPc} (hq : rHoldsW q → rHoldsW p := by simp)
    (ho : q = .oInR → p = .oInR := by simp)
    (hm : q = .hmInR ∨ q = .hmUnlockR → p = .hmInR ∨ p = .hmUnlockR := by simp) : Lock notif (upd rc t q) closer w rd o l := by
  subst hp; rclose h

theorem r_acq {q : RPc} (hw : ¬ (w = true ∨ rd ≠ 0)) (hr : ¬ rRd q := by simp) :
    Lock notif (upd rc t q) closer true rd o l := by
  rclose h

theorem r_rel {p : RPc} (hp : rc t = p) {q : RPc} (hh : rHoldsW p := by simp)
    (hq : ¬ rHoldsW q := by simp) (hr : ¬ rRd q := by simp) :
    Lock notif (upd rc t q) closer false rd o l := by
  subst hp; rclose h

theorem r_old_in (hw : ¬ w = true) : Lock notif (upd rc t .oInR) closer w (rd + 1) o (l + 1) := by
  rclose h

theorem r_old_out (hp : rc t = .oInR) (hu : ∀ u, rc u = .oInR → u = t) :
    Lock notif (upd rc t .closeOld) closer w (rd - 1) o (l - 1) := by
  rclose h

theorem r_once_in (hw : ¬ w = true) : Lock notif (upd rc t .hmInR) closer w (rd + 1) (o + 1) l := by
  rclose h

theorem r_once_out (hp : rc t = .hmUnlockR)
    (hu : (∀ u, rc u = .hmInR ∨ rc u = .hmUnlockR → u = t) ∧ ∀ u, closer u ≠ .inR ∧ closer u ≠ .unlockR) :
    Lock notif (upd rc t .hmCb) closer w (rd - 1) (o - 1) l := by
  rclose h

theorem c_step {p : CPc} (hp : closer t = p) {q : CPc}
    (hq : q = .inR ∨ q = .unlockR → p = .inR ∨ p = .unlockR := by simp) : Lock notif rc (upd closer t q) w rd o l := by
  subst hp; rclose h

theorem c_once_in (hw : ¬ w = true) : Lock notif rc (upd closer t .inR) w (rd + 1) (o + 1) l := by
  rclose h

theorem c_once_out (hp : closer t = .unlockR)
    (hu : (∀ u, closer u = .inR ∨ closer u = .unlockR → u = t) ∧ ∀ u, rc u ≠ .hmInR ∧ rc u ≠ .hmUnlockR) :
    Lock notif rc (upd closer t .cb) w (rd - 1) (o - 1) l := by
  rclose h

theorem no_dial (hw : ¬ w = true) (u : Nat) : rc u ≠ .dDialing :=
  fun e => hw (h.wR u (by rw [e]; trivial))

end Lock

/-- the two flags are a function of the owner's pc (`ownsDo` / `ownsAt`) and both false without an owner;
    there is at most one owner, and only a waiting owner has a goroutine -/
structure Flags (notif : Nat → NPc) (rc : Nat → RPc) (reconn recovering : Bool) : Prop where
  tab : ∀ t, ownsAny (notif t) → (reconn = true ↔ ownsDo (notif t)) ∧ (recovering = true ↔ ownsAt (notif t))
  idle : (∀ t, ¬ ownsAny (notif t)) → reconn = false ∧ recovering = false
  ownUniq : ∀ t u, ownsAny (notif t) → ownsAny (notif u) → t = u
  rcOwner : ∀ t, rc t ≠ .none → isWaitRC (notif t)

theorem upd_of_forall {α} {P : α → Prop} {f : Nat → α} {t : Nat} {q : α}
    (h : ∀ x, P (upd f t q x)) (hp : P q → P (f t)) (x : Nat) : P (f x) := by
  have := h x; unfold upd at this; split at this
  · subst_vars; exact hp this
  · exact this

namespace Flags
variable {notif : Nat → NPc} {rc : Nat → RPc} {d a : Bool} {t : Nat} (h : Flags notif rc d a)
include h
attribute [local grind] ownsAny ownsDo ownsAt isWaitRC
attribute [local grind →] wait_any wait_do

theorem n_other {p : NPc} (hp : notif t = p) {q : NPc} (ho : ¬ ownsAny p := by simp)
    (hq : ¬ ownsAny q := by simp) : Flags (upd notif t q) rc d a := by
  subst hp
  have hi : (∀ x, ¬ ownsAny (upd notif t q x)) → d = false ∧ a = false :=
    fun hn => h.idle (upd_of_forall (P := fun p => ¬ ownsAny p) hn (fun _ => ho))
  rclose h

theorem n_own {p : NPc} (hp : notif t = p) {q : NPc} {d' a' : Bool}
    (ho : ownsAny p := by simp) (hq : ownsAny q := by simp)
    (hd : (d = true ↔ ownsDo p) → (d' = true ↔ ownsDo q) := by simp)
    (ha : (a = true ↔ ownsAt p) → (a' = true ↔ ownsAt q) := by simp)
    (hw : isWaitRC p → isWaitRC q := by simp) : Flags (upd notif t q) rc d' a' := by
  subst hp
  rclose h

theorem n_spawn {c : Nat} (hp : notif t = .spawn c) : Flags (upd notif t (.waitRC c)) (upd rc t .top) d a := by
  rclose h

theorem n_recv {c : Nat} (hp : notif t = .waitRC c) : Flags (upd notif t (.wantW2 c)) (upd rc t .none) d a := by
  rclose h

/-- the guard `!doReconnectting` under the write lock: there is no owner -/
theorem n_acq {p : NPc} (hp : notif t = p) {c : Nat} (hd : d = false) (hu : ∀ u, nHoldsW (notif u) → u = t)
    (ho : ¬ ownsAny p := by simp) : Flags (upd notif t (.setDo c)) rc d a := by
  subst hp
  have no : ∀ u, ¬ ownsAny (notif u) := fun u hu' => by
    have := (h.tab u hu').1; have := any_do_or_w hu'; grind
  have := h.idle no
  rclose h

theorem n_rel {p : NPc} (hp : notif t = p) {q : NPc} (ho : ownsAny p := by simp)
    (hq : ¬ ownsAny q := by simp) (hd : ¬ ownsDo p := by simp) (ha : ¬ ownsAt p := by simp) :
    Flags (upd notif t q) rc d a := by
  subst hp
  rclose h

theorem r_step {p : RPc} (hp : rc t = p) {q : RPc} (hl : p ≠ .none := by simp) : Flags notif (upd rc t q) d a := by
  subst hp; rclose h

theorem doSet (hd : ownsDo (notif t)) : d = true := (h.tab t (do_any hd)).1.2 hd

theorem live_uniq (t u : Nat) (ht : rc t ≠ .none) (hu : rc u ≠ .none) : t = u :=
  h.ownUniq t u (wait_any (h.rcOwner t ht)) (wait_any (h.rcOwner u hu))

theorem no_rc (ho : ownsAny (notif t)) (hw : ¬ isWaitRC (notif t)) (u : Nat) : rc u = .none :=
  Classical.byContradiction fun hu => hw (h.ownUniq u t (wait_any (h.rcOwner u hu)) ho ▸ h.rcOwner u hu)

theorem no_clr (hl : rc t ≠ .none) (u : Nat) : ¬ isClr (notif u) := fun hc =>
  clr_not_wait hc (h.ownUniq t u (wait_any (h.rcOwner t hl)) (clr_any hc) ▸ h.rcOwner t hl)

theorem eq_of_no_mid (hm : ∀ t, ¬ nMid (notif t)) : a = d := by
  by_cases ho : ∃ t, ownsAny (notif t)
  · obtain ⟨t, ht⟩ := ho
    have := h.tab t ht; have := own_flags ht (hm t)
    grind
  · have := h.idle (fun t ht => ho ⟨t, ht⟩)
    simp [this.1, this.2]

end Flags

/-- the notifier has won the guard for connection `c` and has not started the goroutine yet -/
@[simp] def nPend (p : NPc) (c : Nat) : Prop := p = .setDo c ∨ p = .setAt c ∨ p = .unlock1 c ∨ p = .spawn c

/-- connection ids and goroutines started per connection: a goroutine is started for `c` with the signal open only when
    none was started for it before (`pend`), because the guard saw `c` current and no recovery running (`idleFresh`);
    goroutines started after the signal never attempt -/
structure Spawn (notif : Nat → NPc) (rc : Nat → RPc) (cur nconn : Nat) (reconn sig : Bool)
    (spawns spawnsOpen : Nat → Nat) (late : Nat → Bool) (la : Nat) : Prop where
  fresh : cur < nconn
  pend : ∀ t c, nPend (notif t) c → c < nconn ∧ (sig = false → spawns c = 0)
  spawnedLt : ∀ c, 0 < spawns c → c < nconn
  openEq : sig = false → ∀ c, spawns c = spawnsOpen c
  spawnsOpenOnce : ∀ c, spawnsOpen c ≤ 1
  idleFresh : sig = false → reconn = false → spawns cur = 0
  clrFresh : ∀ t, isClr (notif t) → sig = false → spawns cur = 0
  instFresh : ∀ t, rInstalled (rc t) → spawns cur = 0
  lateSig : ∀ t, late t = true → sig = true
  ghostLate : la = 0

namespace Spawn
variable {notif : Nat → NPc} {rc : Nat → RPc} {cur nconn : Nat} {reconn sig : Bool}
  {spawns spawnsOpen : Nat → Nat} {late : Nat → Bool} {la t : Nat}
  (h : Spawn notif rc cur nconn reconn sig spawns spawnsOpen late la)
include h
attribute [local grind] nPend isClr rInstalled ownsAny
attribute [local grind →] clr_any

/-- a move of a notifier; if it also writes `doReconnectting`, clearing it needs `clrFresh` -/
theorem n_step {p : NPc} (hp : notif t = p) {q : NPc} {b : Bool}
    (hq : ∀ c, nPend q c → nPend p c := by simp) (hc : isClr q → isClr p := by simp)
    (hb : b = false → reconn = false ∨ isClr p := by simp) :
    Spawn (upd notif t q) rc cur nconn b sig spawns spawnsOpen late la := by
  subst hp; rclose h

theorem n_win (hr : reconn = false) : Spawn (upd notif t (.setDo cur)) rc cur nconn reconn sig spawns spawnsOpen late la := by
  rclose h

theorem n_spawn {c : Nat} (hp : notif t = .spawn c) (hr : reconn = true) (hu : ∀ u, ownsAny (notif u) → u = t)
    (hrc : ∀ u, rc u = .none) :
    Spawn (upd notif t (.waitRC c)) (upd rc t .top) cur nconn reconn sig (upd spawns c (spawns c + 1))
      (upd spawnsOpen c (if sig = true then spawnsOpen c else spawnsOpen c + 1)) (upd late t sig) la := by
  rclose h

theorem n_recv {c : Nat} (hf : rNeedsSig (rc t) ∨ rInstalled (rc t)) (hs : rNeedsSig (rc t) → sig = true) :
    Spawn (upd notif t (.wantW2 c)) (upd rc t .none) cur nconn reconn sig spawns spawnsOpen late la := by
  rclose h

theorem r_step {p : RPc} (hp : rc t = p) {q : RPc} (hq : rInstalled q → rInstalled p := by simp) :
    Spawn notif (upd rc t q) cur nconn reconn sig spawns spawnsOpen late la := by
  subst hp; rclose h

theorem r_dial_ok {q : RPc} : Spawn notif (upd rc t q) nconn (nconn + 1) reconn sig spawns spawnsOpen late la := by
  rclose h

theorem r_dial_fail {q : RPc} (hr : reconn = true) (hu : ∀ u, ¬ isClr (notif u))
    (hs : ∀ u, rc u ≠ .none → t = u) (hq : ¬ rInstalled q := by simp) :
    Spawn notif (upd rc t q) 0 nconn reconn sig spawns spawnsOpen late la := by
  rclose h

theorem attempt (hc : ¬ sig = true) :
    Spawn notif rc cur nconn reconn sig spawns spawnsOpen late (if late t = true then la + 1 else la) := by
  rclose h

theorem close : Spawn notif rc cur nconn reconn true spawns spawnsOpen late la := by
  rclose h

end Spawn

/-- a notifier that took the atomic fast path has returned and never asked for the write lock -/
structure Fast (notif : Nat → NPc) (fastTaken : Nat → Bool) (reqs : Nat) : Prop where
  fastDone : ∀ t, fastTaken t = true → notif t = .done
  ghostFast : reqs = 0

namespace Fast
variable {notif : Nat → NPc} {ft : Nat → Bool} {reqs t : Nat} (h : Fast notif ft reqs)
include h

theorem n_step {p : NPc} (hp : notif t = p) {q : NPc} (hd : p ≠ .done := by simp) : Fast (upd notif t q) ft reqs := by
  subst hp; rclose h

theorem n_hit : Fast (upd notif t .done) (upd ft t true) reqs := by
  rclose h

theorem n_lock {p : NPc} (hp : notif t = p) {q : NPc} (hd : p ≠ .done := by simp) :
    Fast (upd notif t q) ft (if ft t = true then reqs + 1 else reqs) := by
  subst hp; rclose h

end Fast

/-- `closeOnce`: who is inside the body, how often the callback ran, what a finished Close leaves behind -/
structure OnceI (closer : Nat → CPc) (rc : Nat → RPc) (once : Once) (calls : Nat) (ret : Bool) (hx : Nat) (sig : Bool) : Prop where
  onceC : ∀ t, cInBody (closer t) ↔ once = .heldC t
  onceR : ∀ t, rInBody (rc t) ↔ once = .heldR t
  hmDone : ∀ t, rc t = .fin .hitmax → once = .done
  callsFree : once = .free → calls = 0
  callsHeldC : ∀ t, once = .heldC t → calls = (if closer t = .finish then 1 else 0)
  callsHeldR : ∀ t, once = .heldR t → calls = (if rc t = .hmFinish then 1 else 0)
  callsDone : once = .done → calls = 1
  retIff : ret = true → once = .done
  hmExits : 0 < hx → once = .done
  doneSig : once = .done → sig = true
  sigC : sig = false → ∀ t, closer t = .start ∨ closer t = .signal
  sigR : ∀ t, rNeedsSig (rc t) → sig = true

namespace OnceI
variable {closer : Nat → CPc} {rc : Nat → RPc} {once : Once} {calls : Nat} {ret : Bool} {hx : Nat} {sig : Bool} {t : Nat}
  (h : OnceI closer rc once calls ret hx sig)
include h

theorem r_step {p : RPc} (hp : rc t = p) {q : RPc} (hb : rInBody q ↔ rInBody p := by simp)
    (hf : q = .hmFinish ↔ p = .hmFinish := by simp) (hh : q ≠ .fin .hitmax := by simp)
    (hs : rNeedsSig q → rNeedsSig p ∨ sig = true := by simp) : OnceI closer (upd rc t q) once calls ret hx sig := by
  subst hp; rclose h

theorem c_step {p : CPc} (hp : closer t = p) {q : CPc} (hb : cInBody q ↔ cInBody p := by simp)
    (hf : q = .finish ↔ p = .finish := by simp)
    (hs : p = .start ∨ p = .signal → q = .start ∨ q = .signal ∨ sig = true := by simp) :
    OnceI (upd closer t q) rc once calls ret hx sig := by
  subst hp; rclose h

theorem close : OnceI closer rc once calls ret hx true := by
  rclose h

attribute [local grind] rInBody rNeedsSig cInBody

theorem r_free (ho : once = .free) : OnceI closer (upd rc t .hmSignal) (.heldR t) calls ret hx sig := by
  rclose h

theorem r_done (ho : once = .done) : OnceI closer (upd rc t (.fin .hitmax)) once calls true (hx + 1) sig := by
  rclose h

theorem r_cb (hp : rc t = .hmCb) : OnceI closer (upd rc t .hmFinish) once (calls + 1) ret hx sig := by
  rclose h

theorem r_finish (hp : rc t = .hmFinish) : OnceI closer (upd rc t (.fin .hitmax)) .done calls true (hx + 1) sig := by
  rclose h

theorem c_free (ho : once = .free) : OnceI (upd closer t .signal) rc (.heldC t) calls ret hx sig := by
  rclose h

theorem c_done (ho : once = .done) : OnceI (upd closer t .ret) rc once calls true hx sig := by
  rclose h

theorem c_cb (hp : closer t = .cb) : OnceI (upd closer t .finish) rc once (calls + 1) ret hx sig := by
  rclose h

theorem c_finish (hp : closer t = .finish) : OnceI (upd closer t .ret) rc .done calls true hx sig := by
  rclose h

/-- the Once has one holder: nobody else is in a Close's read-locked section -/
theorem heldC_uniq {p : CPc} (hp : closer t = p) (hb : cInBody p := by simp) :
    (∀ u, closer u = .inR ∨ closer u = .unlockR → u = t) ∧ (∀ u, rc u ≠ .hmInR ∧ rc u ≠ .hmUnlockR) := by
  subst hp
  have hc := h.onceC; have hr := h.onceR
  grind

theorem heldR_uniq {p : RPc} (hp : rc t = p) (hb : rInBody p := by simp) :
    (∀ u, rc u = .hmInR ∨ rc u = .hmUnlockR → u = t) ∧ (∀ u, closer u ≠ .inR ∧ closer u ≠ .unlockR) := by
  subst hp
  have hc := h.onceC; have hr := h.onceR
  grind

theorem opened (hs : ¬ sig = true) : (∀ u, cPreR (closer u)) ∧ (∀ u, ¬ rPostR (rc u)) ∧ once ≠ .done := by
  refine ⟨fun u => ?_, fun u hu => hs (h.sigR u (postR_sig _ hu)), fun e => hs (h.doneSig e)⟩
  have := h.sigC (by simpa using hs) u
  grind [cPreR]

end OnceI

/-- while a dial has seen the signal open (it holds the write lock), no Close is past its read-lock acquisition -/
structure Dial (rc : Nat → RPc) (closer : Nat → CPc) (once : Once) (dar : Nat) : Prop where
  dialC : ∀ t, rc t = .dDialing → ∀ u, cPreR (closer u)
  dialR : ∀ t, rc t = .dDialing → ∀ u, ¬ rPostR (rc u)
  dialOnce : ∀ t, rc t = .dDialing → once ≠ .done
  ghostDial : dar = 0

namespace Dial
variable {closer closer' : Nat → CPc} {rc : Nat → RPc} {once once' : Once} {dar t : Nat} (h : Dial rc closer once dar)
include h
attribute [local grind] rPostR

theorem c_none {rc' : Nat → RPc} (hn : ∀ u, rc' u ≠ .dDialing) : Dial rc' closer' once' dar :=
  ⟨fun t e => (hn t e).elim, fun t e => (hn t e).elim, fun t e => (hn t e).elim, h.ghostDial⟩

theorem r_none (hn : ∀ u, rc u ≠ .dDialing) {q : RPc} (hq : q ≠ .dDialing := by simp) :
    Dial (upd rc t q) closer once' dar :=
  h.c_none fun u => by unfold upd; split <;> simp [hq, hn u]

theorem r_step {p : RPc} (hp : rc t = p) {q : RPc} (hq : q ≠ .dDialing := by simp)
    (hpost : rPostR q → rPostR p := by simp) (ho : ¬ rPostR p → once' = .done → once = .done := by simp) :
    Dial (upd rc t q) closer once' dar := by
  subst hp; rclose h

theorem r_open (ho : (∀ u, cPreR (closer u)) ∧ (∀ u, ¬ rPostR (rc u)) ∧ once ≠ .done) :
    Dial (upd rc t .dDialing) closer once dar := by
  rclose h

theorem r_dial_ok (hp : rc t = .dDialing) {ret : Bool} (hret : ret = true → once = .done) :
    Dial (upd rc t .dUnlockOk) closer once (if ret = true then dar + 1 else dar) := by
  rclose h

theorem c_step {p : CPc} (hp : closer t = p) {q : CPc}
    (hq : cPreR p → cPreR q ∧ (once' = .done → once = .done) := by simp) : Dial rc (upd closer t q) once' dar := by
  subst hp; rclose h

theorem none_of_done (ho : once = .done) (u : Nat) : rc u ≠ .dDialing :=
  fun e => h.dialOnce u e ho

end Dial

/-- the after-reconnect callback: what its guard saw, what the signal was when the attempt's dial completed -/
structure Cbk (rc : Nat → RPc) (gs sd : Nat → Bool) (sig : Bool) (g1 g2 : Nat) : Prop where
  guardOpen : ∀ t, rc t = .cb → gs t = false
  dialSigCb : ∀ t, rc t = .cb → sd t = false
  dialSig : ∀ t, rAttemptOk (rc t) → sd t = true → sig = true
  ghostGuard : g1 = 0
  ghostClosedDial : g2 = 0

namespace Cbk
variable {rc : Nat → RPc} {gs sd : Nat → Bool} {sig : Bool} {g1 g2 t : Nat} (h : Cbk rc gs sd sig g1 g2)
include h

theorem r_step {p : RPc} (hp : rc t = p) {q : RPc} (hq : q ≠ .cb := by simp)
    (hk : rAttemptOk q → rAttemptOk p := by simp) : Cbk (upd rc t q) gs sd sig g1 g2 := by
  subst hp; rclose h

theorem r_dial_ok : Cbk (upd rc t .dUnlockOk) gs (upd sd t sig) sig g1 g2 := by
  rclose h

theorem r_guard {p : RPc} (hp : rc t = p) {q : RPc} {b : Bool} (hq : q = .cb → b = false ∧ ¬ sig = true := by simp)
    (ha : rAttemptOk p := by simp) : Cbk (upd rc t q) (upd gs t b) sd sig g1 g2 := by
  subst hp; rclose h

theorem r_cb (hp : rc t = .cb) :
    Cbk (upd rc t (.fin .success)) gs sd sig (if gs t = true then g1 + 1 else g1) (if sd t = true then g2 + 1 else g2) := by
  rclose h

theorem close : Cbk rc gs sd true g1 g2 := by
  rclose h

end Cbk

structure RInv (s : St) : Prop where
  lock : Lock s.notif s.rc s.closer s.writer s.readers s.rdOnce s.rdOld
  flags : Flags s.notif s.rc s.reconn s.recovering
  once : OnceI s.closer s.rc s.closeOnce s.onCloseCalls s.anyReturned s.hitmaxExits s.closedSig
  dial : Dial s.rc s.closer s.closeOnce s.dialsAfterReturn
  spawn : Spawn s.notif s.rc s.cur s.nconn s.reconn s.closedSig s.spawns s.spawnsOpen s.late s.lateAttempts
  fast : Fast s.notif s.fastTaken s.fastLockReqs
  cbk : Cbk s.rc s.guardSaw s.sigAtDial s.closedSig s.afterUnguarded s.afterClosedDial

theorem inv_init (m : Nat) : RInv (init m) := by
  constructor <;> constructor <;> simp [init]

/-- `close(c.closeCh)` by itself -/
theorem RInv.close {s : St} (h : RInv s) : RInv { s with closedSig := true } :=
  { h with once := h.once.close, spawn := h.spawn.close, cbk := h.cbk.close }

theorem RInv.n_move {s : St} (h : RInv s) {t : Nat} {p : NPc} (hp : s.notif t = p) {q : NPc} {w d a : Bool}
    (hl : Lock (upd s.notif t q) s.rc s.closer w s.readers s.rdOnce s.rdOld) (hf : Flags (upd s.notif t q) s.rc d a)
    (h1 : ∀ c, nPend q c → nPend p c := by simp) (h2 : isClr q → isClr p := by simp)
    (h3 : d = false → s.reconn = false ∨ isClr p := by simp) (h4 : p ≠ .done := by simp) :
    RInv { s with notif := upd s.notif t q, writer := w, reconn := d, recovering := a } :=
  { h with lock := hl, flags := hf, spawn := h.spawn.n_step hp h1 h2 h3, fast := h.fast.n_step hp h4 }

theorem RInv.r_step {s : St} (h : RInv s) {t : Nat} {p : RPc} (hp : s.rc t = p) {q : RPc} {w ret : Bool} {rd o l calls hx dar : Nat}
    {once : Once} (hl : Lock s.notif (upd s.rc t q) s.closer w rd o l)
    (ho : OnceI s.closer (upd s.rc t q) once calls ret hx s.closedSig) (hd : Dial (upd s.rc t q) s.closer once dar)
    (f1 : p ≠ .none := by simp) (s1 : rInstalled q → rInstalled p := by simp)
    (c1 : q ≠ .cb := by simp) (c2 : rAttemptOk q → rAttemptOk p := by simp) :
    RInv { s with rc := upd s.rc t q, writer := w, readers := rd, rdOnce := o, rdOld := l, closeOnce := once,
                  onCloseCalls := calls, anyReturned := ret, hitmaxExits := hx, dialsAfterReturn := dar } :=
  { h with lock := hl, once := ho, dial := hd, flags := h.flags.r_step hp f1, spawn := h.spawn.r_step hp s1,
           cbk := h.cbk.r_step hp c1 c2 }

theorem RInv.r_move {s : St} (h : RInv s) {t : Nat} {p : RPc} (hp : s.rc t = p) {q : RPc} {w : Bool} {rd o l : Nat}
    (hl : Lock s.notif (upd s.rc t q) s.closer w rd o l)
    (o1 : rInBody q ↔ rInBody p := by simp) (o2 : q = .hmFinish ↔ p = .hmFinish := by simp)
    (o3 : q ≠ .fin .hitmax := by simp) (o4 : rNeedsSig q → rNeedsSig p ∨ s.closedSig = true := by simp)
    (d1 : q ≠ .dDialing := by simp) (d2 : rPostR q → rPostR p := by simp)
    (f1 : p ≠ .none := by simp) (s1 : rInstalled q → rInstalled p := by simp)
    (c1 : q ≠ .cb := by simp) (c2 : rAttemptOk q → rAttemptOk p := by simp) :
    RInv { s with rc := upd s.rc t q, writer := w, readers := rd, rdOnce := o, rdOld := l } :=
  h.r_step hp hl (h.once.r_step hp o1 o2 o3 o4) (h.dial.r_step hp d1 d2) f1 s1 c1 c2

/-- finish a branch of the step function: `s'` becomes the post-state written there -/
macro "fin_step" hs:ident : tactic => `(tactic| (simp only [Option.some.injEq] at $hs:ident; subst $hs:ident))

/-! One bullet per pc, in the order of the constructors of `NPc` / `RPc` / `CPc` (the order of the `match` in `stepN/R/C`);
`hp` is the pc, `hw` / `hc` / `ho` the test of the branch. -/

theorem inv_stepN {s s' : St} {t c : Nat} {occ : Bool} (h : RInv s) (hs : stepN s t c occ = some s') : RInv s' := by
  unfold stepN at hs
  split at hs
  · -- .idle, through `onConnClose` or directly
    rename_i hp; split at hs <;> fin_step hs <;> exact h.n_move hp (h.lock.n_step hp) (h.flags.n_other hp)
  · -- .occ c
    rename_i hp; split at hs <;> fin_step hs <;> exact h.n_move hp (h.lock.n_step hp) (h.flags.n_other hp)
  · -- .enter c
    rename_i hp; split at hs <;> fin_step hs <;> exact h.n_move hp (h.lock.n_step hp) (h.flags.n_other hp)
  · -- .fast c
    rename_i hp; split at hs <;> fin_step hs
    · exact { h.n_move hp (h.lock.n_step hp) (h.flags.n_other hp) with fast := h.fast.n_hit }   -- recovering = 1
    · exact h.n_move hp (h.lock.n_step hp) (h.flags.n_other hp)
  · -- .wantW c
    rename_i hp; split at hs
    · cases hs
    · rename_i hw; fin_step hs
      exact { h.n_move hp (h.lock.n_acq hw) (h.flags.n_other hp) with fast := h.fast.n_lock hp }
  · -- .locked c
    rename_i c' hp; split at hs <;> rename_i hc <;> fin_step hs
    · exact h.n_move hp (h.lock.n_step hp) (h.flags.n_other hp)   -- doReconnectting || c.conn != conn
    · obtain ⟨hr, rfl⟩ : s.reconn = false ∧ s.cur = c' := by simpa using hc
      exact { h with lock := h.lock.n_step hp, spawn := h.spawn.n_win hr, fast := h.fast.n_step hp,
                     flags := h.flags.n_acq hp hr (fun u hu => h.lock.wUniqNN u t hu (by simp [hp])) }
  · -- .skipUnlock
    rename_i hp; fin_step hs; exact h.n_move hp (h.lock.n_rel hp) (h.flags.n_other hp)
  · -- .setDo c
    rename_i hp; fin_step hs; exact h.n_move hp (h.lock.n_step hp) (h.flags.n_own hp)
  · -- .setAt c
    rename_i hp; fin_step hs; exact h.n_move hp (h.lock.n_step hp) (h.flags.n_own hp)
  · -- .unlock1 c
    rename_i hp; fin_step hs; exact h.n_move hp (h.lock.n_rel hp) (h.flags.n_own hp)
  · -- .spawn c
    rename_i hp; fin_step hs
    have hn := h.flags.no_rc (t := t) (by simp [hp]) (by simp [hp])
    exact { h with lock := (h.lock.n_step hp).r_step (hn t), flags := h.flags.n_spawn hp, once := h.once.r_step (hn t),
                   dial := h.dial.r_step (hn t), fast := h.fast.n_step hp, cbk := h.cbk.r_step (hn t),
                   spawn := h.spawn.n_spawn hp (h.flags.doSet (t := t) (by simp [hp]))
                     (fun u hu => h.flags.ownUniq u t hu (by simp [hp])) hn }
  · -- .waitRC c
    rename_i hp; split at hs
    · rename_i e hf; fin_step hs
      exact { h with lock := (h.lock.n_step hp).r_step hf, flags := h.flags.n_recv hp, once := h.once.r_step hf,
                     dial := h.dial.r_step hf, fast := h.fast.n_step hp, cbk := h.cbk.r_step hf,
                     spawn := h.spawn.n_recv (hf ▸ fin_cases e) (h.once.sigR t) }
    · cases hs
  · -- .wantW2 c
    rename_i hp; split at hs
    · cases hs
    · rename_i hw; fin_step hs
      exact { h.n_move hp (h.lock.n_acq hw) (h.flags.n_own hp) with fast := h.fast.n_lock hp }
  · -- .clrDo c
    rename_i hp; fin_step hs; exact h.n_move hp (h.lock.n_step hp) (h.flags.n_own hp)
  · -- .clrAt c
    rename_i hp; fin_step hs; exact h.n_move hp (h.lock.n_step hp) (h.flags.n_own hp)
  · -- .unlock2 c
    rename_i hp; fin_step hs; exact h.n_move hp (h.lock.n_rel hp) (h.flags.n_rel hp)
  · -- .done
    cases hs

theorem inv_stepR {s s' : St} {t : Nat} {ok resume : Bool} (h : RInv s) (hs : stepR s t ok resume = some s') : RInv s' := by
  unfold stepR at hs
  split at hs
  · -- .none
    cases hs
  · -- .top
    rename_i hp; split at hs <;> rename_i hc <;> fin_step hs
    · exact h.r_move hp (h.lock.r_step hp) (o4 := fun _ => .inr hc)   -- closed
    · exact { h.r_move hp (h.lock.r_step hp) with spawn := (h.spawn.r_step hp).attempt hc }
  · -- .chkMax.  The step also writes `count`, which no layer reads, so the post-state is not of the form in `r_move`'s
    -- conclusion: `{ … with }` has the fields checked one by one against the layers (the same at .auth).
    rename_i hp; split at hs <;> fin_step hs <;> exact { h.r_move hp (h.lock.r_step hp) with }
  · -- .oWantR
    rename_i hp; split at hs
    · cases hs
    · rename_i hw; fin_step hs; exact h.r_move hp (h.lock.r_old_in hw)
  · -- .oInR
    rename_i hp; fin_step hs
    have hl : s.rc t ≠ .none := by simp [hp]
    exact h.r_move hp (h.lock.r_old_out hp (fun u hu => (h.flags.live_uniq t u hl (by simp [hu])).symm))
  · -- .closeOld
    rename_i hp; fin_step hs; exact h.r_move hp (h.lock.r_step hp)
  · -- .dWantW
    rename_i hp; split at hs
    · cases hs
    · rename_i hw; fin_step hs; exact h.r_move hp (h.lock.r_acq hw)
  · -- .dCheck
    rename_i hp; split at hs <;> rename_i hc <;> fin_step hs
    · exact h.r_move hp (h.lock.r_step hp)   -- closed
    · exact h.r_step hp (h.lock.r_step hp) (h.once.r_step hp) (h.dial.r_open (h.once.opened hc))
  · -- .dDialing
    rename_i hp; split at hs <;> fin_step hs
    · -- the dialer returns a connection
      exact { h with lock := h.lock.r_step hp, flags := h.flags.r_step hp, once := h.once.r_step hp,
                     dial := h.dial.r_dial_ok hp h.once.retIff, spawn := h.spawn.r_dial_ok, cbk := h.cbk.r_dial_ok }
    · have hl : s.rc t ≠ .none := by simp [hp]
      exact { h.r_move hp (h.lock.r_step hp) with
                spawn := h.spawn.r_dial_fail (h.flags.doSet (wait_do (h.flags.rcOwner t hl))) (h.flags.no_clr hl)
                  (fun u => h.flags.live_uniq t u hl) }
  · -- .dUnlockOk
    rename_i hp; fin_step hs; exact h.r_move hp (h.lock.r_rel hp)
  · -- .dUnlockFail
    rename_i hp; fin_step hs; exact h.r_move hp (h.lock.r_rel hp)
  · -- .auth
    rename_i hp; split at hs <;> fin_step hs <;> exact { h.r_move hp (h.lock.r_step hp) with }
  · -- .sleep
    rename_i hp; fin_step hs; exact h.r_move hp (h.lock.r_step hp)
  · -- .cbTest
    rename_i hp; split at hs <;> rename_i hc <;> fin_step hs
    · exact { h.r_move hp (h.lock.r_step hp) with cbk := h.cbk.r_guard hp }   -- closed
    · exact { h with lock := h.lock.r_step hp, flags := h.flags.r_step hp, once := h.once.r_step hp,
                     dial := h.dial.r_step hp, spawn := h.spawn.r_step hp, cbk := h.cbk.r_guard hp (fun _ => ⟨rfl, hc⟩) }
  · -- .cb
    rename_i hp; fin_step hs; exact { h.r_move hp (h.lock.r_step hp) with cbk := h.cbk.r_cb hp }
  · -- .hmOnce
    rename_i hp; split at hs
    · rename_i ho; fin_step hs   -- Once free
      exact h.r_step hp (h.lock.r_step hp) (h.once.r_free ho) (h.dial.r_step hp)
    · rename_i ho; fin_step hs   -- Once done
      exact h.r_step hp (h.lock.r_step hp) (h.once.r_done ho) (h.dial.r_none (h.dial.none_of_done ho))
    · cases hs
  · -- .hmSignal
    rename_i hp; fin_step hs
    exact h.close.r_move hp (h.lock.r_step hp)
  · -- .hmWantR
    rename_i hp; split at hs
    · cases hs
    · rename_i hw; fin_step hs
      exact h.r_step hp (h.lock.r_once_in hw) (h.once.r_step hp) (h.dial.r_none (h.lock.no_dial hw))
  · -- .hmInR
    rename_i hp; fin_step hs; exact h.r_move hp (h.lock.r_step hp)
  · -- .hmUnlockR
    rename_i hp; fin_step hs; exact h.r_move hp (h.lock.r_once_out hp (h.once.heldR_uniq hp))
  · -- .hmCb
    rename_i hp; fin_step hs
    exact h.r_step hp (h.lock.r_step hp) (h.once.r_cb hp) (h.dial.r_step hp)
  · -- .hmFinish
    rename_i hp; fin_step hs
    exact h.r_step hp (h.lock.r_step hp) (h.once.r_finish hp) (h.dial.r_step hp)
  · -- .fin e
    cases hs

theorem inv_stepC {s s' : St} {t : Nat} (h : RInv s) (hs : stepC s t = some s') : RInv s' := by
  unfold stepC at hs
  split at hs
  · -- .start
    rename_i hp; split at hs
    · rename_i ho; fin_step hs   -- Once free
      exact { h with lock := h.lock.c_step hp, once := h.once.c_free ho, dial := h.dial.c_step hp }
    · rename_i ho; fin_step hs   -- Once done
      exact { h with lock := h.lock.c_step hp, once := h.once.c_done ho, dial := h.dial.c_none (h.dial.none_of_done ho) }
    · cases hs
  · -- .signal
    rename_i hp; fin_step hs
    exact { h.close with lock := h.lock.c_step hp, once := h.once.close.c_step hp, dial := h.dial.c_step hp }
  · -- .wantR
    rename_i hp; split at hs
    · cases hs
    · rename_i hw; fin_step hs
      exact { h with lock := h.lock.c_once_in hw, once := h.once.c_step hp, dial := h.dial.c_none (h.lock.no_dial hw) }
  · -- .inR
    rename_i hp; fin_step hs
    exact { h with lock := h.lock.c_step hp, once := h.once.c_step hp, dial := h.dial.c_step hp }
  · -- .unlockR
    rename_i hp; fin_step hs
    exact { h with lock := h.lock.c_once_out hp (h.once.heldC_uniq hp), once := h.once.c_step hp,
                   dial := h.dial.c_step hp }
  · -- .cb
    rename_i hp; fin_step hs
    exact { h with lock := h.lock.c_step hp, once := h.once.c_cb hp, dial := h.dial.c_step hp }
  · -- .finish
    rename_i hp; fin_step hs
    exact { h with lock := h.lock.c_step hp, once := h.once.c_finish hp, dial := h.dial.c_step hp }
  · -- .ret
    cases hs

theorem inv_step (s : St) (a : Act) (s' : St) (h : RInv s) (hs : step s a = some s') : RInv s' := by
  cases a with
  | n t c occ => exact inv_stepN h hs
  | r t ok resume => exact inv_stepR h hs
  | c t => exact inv_stepC h hs

theorem inv_reach (m : Nat) (acts : List Act) (s : St) (h : run (init m) acts = some s) : RInv s :=
  isRun.inv inv_step acts (init m) s (inv_init m) h

/-- 1. SINGLE FLIGHT: at most one retry-goroutine slot is occupied (running, or finished and not yet received from) -/
theorem single_flight (m : Nat) (acts : List Act) (s : St) (h : run (init m) acts = some s) (t u : Nat)
    (ht : rLive (s.rc t)) (hu : rLive (s.rc u)) : t = u :=
  (inv_reach m acts s h).flags.live_uniq t u (fun e => by rw [e] at ht; exact ht) (fun e => by rw [e] at hu; exact hu)

/-- 2 (strongest true variant). ONE RECOVERY PER LOSS, as far as it holds of the code:
    (a) while the client is open, at most one retry goroutine has been started for a connection;
    (b) over the whole run, at most one was started for it before the close signal;
    (c) a goroutine started after the close signal never calls `reconnect()` (it leaves at its first `closed()` test). -/
theorem one_recovery_per_loss_partial (m : Nat) (acts : List Act) (s : St) (h : run (init m) acts = some s) (c : Nat) :
    (s.closedSig = false → s.spawns c ≤ 1) ∧ s.spawnsOpen c ≤ 1 ∧ s.lateAttempts = 0 := by
  have i := (inv_reach m acts s h).spawn
  exact ⟨fun ho => i.openEq ho c ▸ i.spawnsOpenOnce c, i.spawnsOpenOnce c, i.ghostLate⟩

/-- 3. THE ATOMIC MIRROR: whenever nobody holds the write lock `recovering` equals `doReconnectting` … -/
theorem flag_agrees (m : Nat) (acts : List Act) (s : St) (h : run (init m) acts = some s) :
    s.writer = false → s.recovering = s.reconn := fun hw =>
  have i := inv_reach m acts s h
  i.flags.eq_of_no_mid fun t ht => by simpa [hw] using i.lock.wN t (mid_w ht)

/-- … and the exact relation while it is held: the flags differ only while the lock holder is a notifier between its
    two stores, and then `doReconnectting` is the one already written -/
theorem flag_agrees_locked (m : Nat) (acts : List Act) (s : St) (h : run (init m) acts = some s) :
    (∀ t, nHoldsW (s.notif t) → nMid (s.notif t) ∨ s.recovering = s.reconn) ∧
    (∀ t, rHoldsW (s.rc t) → s.recovering = s.reconn) ∧
    (∀ t c, s.notif t = .setAt c → s.reconn = true ∧ s.recovering = false) ∧
    (∀ t c, s.notif t = .clrAt c → s.reconn = false ∧ s.recovering = true) := by
  have ⟨l, f, _, _, _, _, _⟩ := inv_reach m acts s h
  refine ⟨fun t ht => ?_, fun t ht => f.eq_of_no_mid fun u hu => l.wUniqNR u t (mid_w hu) ht, fun t c e => ?_, fun t c e => ?_⟩
  · by_cases hm : nMid (s.notif t)
    · exact .inl hm
    · exact .inr (f.eq_of_no_mid fun u hu => hm (l.wUniqNN u t (mid_w hu) ht ▸ hu))
  · simpa [e] using f.tab t (by simp [e])
  · simpa [e] using f.tab t (by simp [e])

/-- 4. FAST PATH: a notifier that read `recovering = 1` has returned and never acquired the write lock in that call -/
theorem fast_path_no_lock (m : Nat) (acts : List Act) (s : St) (h : run (init m) acts = some s) :
    s.fastLockReqs = 0 ∧ ∀ t, s.fastTaken t = true → s.notif t = .done := by
  have i := (inv_reach m acts s h).fast
  exact ⟨i.ghostFast, i.fastDone⟩

/-- 5. CLOSE IS FINAL: no dial installs a connection after some Close call (user's or the hit-max one) has returned -/
theorem no_dial_after_close_returned (m : Nat) (acts : List Act) (s : St) (h : run (init m) acts = some s) :
    s.dialsAfterReturn = 0 :=
  (inv_reach m acts s h).dial.ghostDial

/-- 6. the close callback runs at most once, whatever the race between user Close calls and the hit-max Close -/
theorem on_close_at_most_once (m : Nat) (acts : List Act) (s : St) (h : run (init m) acts = some s) :
    s.onCloseCalls ≤ 1 := by
  have i := (inv_reach m acts s h).once
  cases ho : s.closeOnce with
  | free => rw [i.callsFree ho]; omega
  | heldC t => rw [i.callsHeldC t ho]; split <;> omega
  | heldR t => rw [i.callsHeldR t ho]; split <;> omega
  | done => rw [i.callsDone ho]; omega

/-- 7. every after-reconnect callback was preceded, in the same goroutine and after its successful `reconnect()`,
    by a `closed()` test that returned false -/
theorem after_cb_guarded (m : Nat) (acts : List Act) (s : St) (h : run (init m) acts = some s) :
    s.afterUnguarded = 0 ∧ ∀ t, s.rc t = .cb → s.guardSaw t = false := by
  have i := (inv_reach m acts s h).cbk
  exact ⟨i.ghostGuard, i.guardOpen⟩

/-- 7'. consequence: if the close signal was already set when the attempt's dial installed its connection,
    no callback runs for that attempt -/
theorem after_cb_not_after_closed_dial (m : Nat) (acts : List Act) (s : St) (h : run (init m) acts = some s) :
    s.afterClosedDial = 0 ∧ ∀ t, s.rc t = .cb → s.sigAtDial t = false := by
  have i := (inv_reach m acts s h).cbk
  exact ⟨i.ghostClosedDial, i.dialSigCb⟩

/-- 8. a goroutine that has left through the hit-max branch leaves the close signal set and the close callback run
    exactly once (by itself, or by the Close caller it waited for) -/
theorem hitmax_closes (m : Nat) (acts : List Act) (s : St) (h : run (init m) acts = some s) :
    (∀ t, s.rc t = .fin .hitmax → s.closedSig = true ∧ s.onCloseCalls = 1) ∧
    (0 < s.hitmaxExits → s.closedSig = true ∧ s.onCloseCalls = 1) := by
  have i := (inv_reach m acts s h).once
  exact ⟨fun t ht => ⟨i.doneSig (i.hmDone t ht), i.callsDone (i.hmDone t ht)⟩,
         fun hx => ⟨i.doneSig (i.hmExits hx), i.callsDone (i.hmExits hx)⟩⟩

/-- sanity of the lock model: while the write lock is held nobody is inside a read-locked section -/
theorem rw_exclusion (m : Nat) (acts : List Act) (s : St) (h : run (init m) acts = some s) (hw : s.writer = true) :
    (∀ t, s.closer t ≠ .inR ∧ s.closer t ≠ .unlockR) ∧
    (∀ t, s.rc t ≠ .oInR ∧ s.rc t ≠ .hmInR ∧ s.rc t ≠ .hmUnlockR) := by
  have i := (inv_reach m acts s h).lock
  have h0 := i.wExcl hw
  have h1 := i.rdSum
  refine ⟨fun t => ?_, fun t => ?_⟩
  · have := i.rdOnceC t; grind
  · have := i.rdOnceR t; have := i.rdOldIn t; grind

/-! ### non-vacuity: concrete runs -/

def ns (t c k : Nat) : List Act := List.replicate k (.n t c false)
def rs (t : Nat) (ok resume : Bool) (k : Nat) : List Act := List.replicate k (.r t ok resume)
def cs (t k : Nat) : List Act := List.replicate k (.c t)

/-- notifier 7 reports connection 1 and starts the recovery; notifier 9 (through onConnClose) reads `recovering = 1`
    and returns; the first dial fails (conn = nil), the second installs connection 2, the resume succeeds, the callback
    runs; notifier 7 clears the flags; a late notifier 11 for connection 1 is turned away by the guard. -/
def demoA : List Act :=
  ns 7 1 9 ++                                    -- … → waitRC, goroutine started
  [.n 9 1 true] ++ ns 9 1 3 ++                   -- onConnClose: open; reconnecting: open; fast path → done
  rs 7 false false 10 ++                         -- attempt 1: dial fails, sleep, back to the top
  rs 7 true true 12 ++                           -- attempt 2: dial ok, resume ok, guard open, callback, finished
  ns 7 1 5 ++                                    -- receive, Lock, clear both flags, Unlock
  ns 11 1 6                                      -- stale report: Lock, guard `c.conn != conn`, Unlock

example : (run (init 0) demoA).map (fun s => (s.cur, s.spawns 1, s.afterCalls)) = some (2, 1, 1) := by decide
example : (run (init 0) demoA).map (fun s => (s.reconn, s.recovering, s.writer)) = some (false, false, false) := by decide
example : (run (init 0) demoA).map (fun s => (s.fastTaken 9, s.fastLockReqs, s.count)) = some (true, 0, 0) := by decide
example : (run (init 0) demoA).map (fun s => (s.notif 7, s.notif 9, s.notif 11)) = some (.done, .done, .done) := by decide
/-- single flight is not vacuous: in the middle of that run the slot of notifier 7 is occupied -/
example : (run (init 0) (ns 7 1 9 ++ [.n 9 1 true] ++ ns 9 1 3 ++ rs 7 false false 8)).map
    (fun s => (s.rc 7, s.rc 9, s.cur)) = some (.dUnlockFail, .none, 0) := by decide
/-- the flags differ between the two stores, under the write lock -/
example : (run (init 0) (ns 7 1 6)).map (fun s => (s.reconn, s.recovering, s.writer)) = some (true, false, true) := by decide

/-- Close races with a dial that has already seen the signal open: Close sets the signal and then BLOCKS on the
    read lock; the dial installs connection 2 (legitimately: no Close has returned), Close then closes it and
    returns; the goroutine's guard sees the signal: no callback. -/
def demoB1 : List Act := ns 7 1 9 ++ rs 7 true false 7 ++ cs 5 2      -- goroutine in dDialing, Close at wantR
def demoB : List Act :=
  demoB1 ++ rs 7 true false 2 ++                  -- dial ok: cur := 2; Unlock
  cs 5 5 ++                                       -- RLock, close conn 2, RUnlock, callback, return
  rs 7 true false 2 ++                            -- auth ok; guard closed → finished without callback
  ns 7 1 5

example : (run (init 0) demoB1).map (fun s => (s.rc 7, s.closer 5, s.closedSig)) = some (.dDialing, .wantR, true) := by decide
example : (run (init 0) (demoB1 ++ [.c 5])).isNone = true := by decide
example : (run (init 0) demoB).map (fun s => (s.cur, s.dialsAfterReturn, s.anyReturned)) = some (2, 0, true) := by decide
example : (run (init 0) demoB).map (fun s => (s.afterCalls, s.onCloseCalls, s.rc 7)) = some (0, 1, .none) := by decide
/-- this is the situation of `after_cb_not_after_closed_dial`: the signal was set when the dial installed its connection -/
example : (run (init 0) demoB).map (fun s => (s.sigAtDial 7, s.guardSaw 7, s.afterClosedDial)) = some (true, true, 0) := by decide

/-- Close returns while the goroutine is between closing the old connection and `dial`: `dial` takes the lock, sees the
    signal and fails WITHOUT dialling (c.conn stays 1); the loop leaves at its next `closed()` test. -/
def demoB2 : List Act :=
  ns 7 1 9 ++ rs 7 true false 5 ++ cs 5 7 ++ rs 7 true false 5 ++ ns 7 1 5
example : (run (init 0) demoB2).map (fun s => (s.cur, s.dialsAfterReturn, s.anyReturned)) = some (1, 0, true) := by decide
example : (run (init 0) (ns 7 1 9 ++ rs 7 true false 5 ++ cs 5 7 ++ rs 7 true false 5)).map
    (fun s => (s.rc 7, s.nconn, s.onCloseCalls)) = some (.fin .closed, 2, 1) := by decide

/-- hit-max (MaxReconnect = 1) racing a user Close: the user takes the Once first, the goroutine's nested Close blocks
    on it, then returns without running the callback a second time. -/
def demoC1 : List Act := ns 7 1 9 ++ rs 7 false false 10 ++ rs 7 false false 2 ++ cs 5 1   -- count = 1 ≥ 1: hmOnce; user holds the Once
def demoC : List Act := demoC1 ++ cs 5 6 ++ rs 7 false false 1 ++ ns 7 1 5
example : (run (init 1) demoC1).map (fun s => (s.rc 7, s.closeOnce, s.count)) = some (.hmOnce, .heldC 5, 1) := by decide
example : (run (init 1) (demoC1 ++ [.r 7 false false])).isNone = true := by decide
example : (run (init 1) demoC).map (fun s => (s.hitmaxExits, s.onCloseCalls, s.closedSig)) = some (1, 1, true) := by decide
example : (run (init 1) demoC).map (fun s => (s.notif 7, s.closer 5, s.reconn)) = some (.done, .ret, false) := by decide

/-- hit-max alone: the goroutine runs the whole Close procedure itself; a later user Close finds the Once done. -/
def demoC2 : List Act := ns 7 1 9 ++ rs 7 false false 10 ++ rs 7 false false 2 ++ rs 7 false false 7 ++ cs 5 1 ++ ns 7 1 5
example : (run (init 1) demoC2).map (fun s => (s.hitmaxExits, s.onCloseCalls, s.closedSig)) = some (1, 1, true) := by decide
example : (run (init 1) (ns 7 1 9 ++ rs 7 false false 10 ++ rs 7 false false 2 ++ rs 7 false false 7)).map
    (fun s => (s.rc 7, s.closeOnce, s.anyReturned)) = some (.fin .hitmax, .done, true) := by decide

/-- THE UNCONDITIONAL `one_recovery_per_loss` IS FALSE OF THE CODE.  Notifier 9 passes `closed()` and the atomic
    fast path before notifier 7 starts the recovery of connection 1; Close sets the signal; the goroutine leaves at
    its first `closed()` test WITHOUT replacing c.conn; notifier 7 clears the flags; notifier 9 now takes the lock and
    finds `doReconnectting = false ∧ c.conn == conn`: it starts a second retry goroutine for connection 1
    (which can only leave at its first `closed()` test: one_recovery_per_loss_partial (c)). -/
def demoD : List Act :=
  ns 9 1 3 ++                                     -- notifier 9: closed() open, recovering = 0 → about to Lock
  ns 7 1 9 ++                                     -- notifier 7 wins, starts goroutine 7
  cs 5 2 ++                                       -- Close: Once, signal
  rs 7 false false 1 ++                           -- goroutine 7: closed → finished
  ns 7 1 5 ++                                     -- notifier 7: receive, clear the flags
  ns 9 1 6 ++                                     -- notifier 9: Lock, guard passes, set flags, Unlock, start goroutine 9
  rs 9 false false 1 ++ ns 9 1 5                  -- goroutine 9: closed → finished; flags cleared

theorem demoD_spawns : (run (init 0) demoD).map (fun s => (s.spawns 1, s.spawnsOpen 1, s.lateAttempts)) = some (2, 1, 0) := by decide
example : (run (init 0) demoD).map (fun s => (s.notif 7, s.notif 9, s.cur)) = some (.done, .done, 1) := by decide

theorem one_recovery_per_loss_false :
    ¬ (∀ (m : Nat) (acts : List Act) (s : St), run (init m) acts = some s → ∀ c, s.spawns c ≤ 1) := by
  intro hall
  obtain ⟨s, hr, hs⟩ := Option.map_eq_some_iff.mp demoD_spawns
  have := hall 0 demoD s hr 1
  simp only [Prod.mk.injEq] at hs
  omega

/-- the guard is a test-then-act: the callback CAN run after a Close call has returned (Close runs entirely between
    the `closed()` test and the call) — so `after_cb_guarded` cannot be strengthened to "no callback once closed". -/
def demoE : List Act := ns 7 1 9 ++ rs 7 true false 11 ++ cs 5 7 ++ rs 7 true false 1
example : (run (init 0) demoE).map (fun s => (s.afterCalls, s.afterAfterReturn, s.afterUnguarded)) = some (1, 1, 0) := by decide
example : (run (init 0) demoE).map (fun s => (s.anyReturned, s.onCloseCalls, s.afterClosedDial)) = some (true, 1, 0) := by decide

end OAP.Recovery
