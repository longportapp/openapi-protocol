/-
T3 for the Recovery view: the hook log of a real run of the Go client, replayed through the Recovery LTS.

The log shows only SOME steps of each goroutine.  Every hook sits BETWEEN two statements of the Go code, i.e. between two
transitions A, B of the model thread the goroutine is mapped to; the replay therefore treats a hook as something the
transition A *leaves pending*: after A the thread cannot move (and nobody can receive from it) until the matching event
has been consumed from the log.  All other transitions are unobserved (τ).  Between two logged events ANY live thread may
take τ-steps (the closer's `close(closeCh)` must be able to happen before the retry goroutine's `closed()` test although
neither is logged), so the replay is the on-the-fly subset construction of the weak-trace problem:

    frontier₀ = {init m};   frontierₖ₊₁ = dedupe { consume(s', obsₖ) | s' ∈ τ-closure(frontierₖ) }

The log is a trace of the model iff the frontier never becomes empty.  The τ-closure is finite (every cycle of a thread
passes a hooked transition) and is kept small by four prunings, none of which can make a log conform that is not a trace
(they only remove interleavings; the first three remove none that matters):
  * a transition that leaves the hook `l` pending is only taken when `l` is the next logged event of that goroutine;
  * a goroutine's thread only moves while it is the running call of the goroutine (nested calls run to completion);
  * a critical section, once entered, runs to its end or to its next hook, and purely local steps follow their
    predecessor at once (`eagerPc`, Lipton reduction: acquire = right mover, release = left mover, protected = both mover);
  * a notifier whose goroutine has no further event in the log and that holds nothing (pc enter / fast / wantW) is frozen.
Bounds: closure ≤ `closureFuel` breadth-first levels and `closureCap` states, frontier ≤ `frontierCap` candidates
(measured on 960 real logs: largest closure 186, largest frontier 93); `settle` makes at most 32 eager steps in a row, and
`consume` pops at most 7 returned calls off a goroutine's stack for one event (the literals in `expand` / `replayFrom`).
Every candidate carries the list of model actions taken so far; on success the witness is re-run through `Recovery.run`
(`certify`), so that the theorems of Recovery.lean (stated for `run (init m) acts = some s`) apply to it literally,
whatever the search did.

Goroutine ↦ model thread (by goroutine id; one model thread per CALL, a goroutine owns a stack of calls)
  `reconnecting:enter(c)`   new notifier thread, action `n t c false` at `idle` (the model lets any notifier report any
                            connection directly; the `onConnClose` pre-test is not needed to explain the event).
                            If the goroutine is a retry goroutine it must be at `closeOld` (old.Close runs the callback)
                            and c must be the model's current connection (`old := c.conn`).
  `reconnecting:start`      pending after `unlock1 → spawn`
  `reconnecting:done`       pending after `unlock2 → done`
  `reconnect:attempt`       pending after `top → chkMax`; the first one of an unknown goroutine binds it to an unbound
                            occupied retry slot (all choices are kept)
  `reconnect:failall`       pending after `closeOld → dWantW`
  `client.dial:done(c)`     pending after `dDialing → dUnlockOk` (c = the fresh connection) / `→ dUnlockFail` (c = 0);
                            the first one, by a goroutine that never logged `reconnect:attempt`, is the initial Dial
                            (connection 1 of `init`)
  `client.Close:enter`      retry goroutine: pending after `chkMax → hmOnce`; anybody else: new closer thread at `start`
                            (a retry goroutine inside the after-reconnect callback, pc `cb`, may nest one)
  `client.Close:return`     pending after the transition into `ret` (closer) / `fin hitmax` (retry goroutine)
A goroutine's next event that does not belong to its top thread requires that thread to have RETURNED (pc `done` / `ret`,
nothing pending) by τ-steps.
-/
import OAP.Model.Client.Recovery
namespace OAP.RecoveryReplay
open OAP OAP.Recovery

/-- hook labels; connection ids are model ids (see `translate`) -/
inductive Label
  | enter (c : Nat) | start | done | attempt | failall | dialDone (c : Nat) | closeEnter | closeReturn
deriving DecidableEq, Repr

structure Obs where
  gid : Nat
  lab : Label
deriving DecidableEq, Repr

def Label.name : Label → String
  | .enter c => s!"reconnecting:enter({c})" | .start => "reconnecting:start" | .done => "reconnecting:done"
  | .attempt => "reconnect:attempt" | .failall => "reconnect:failall" | .dialDone c => s!"client.dial:done({c})"
  | .closeEnter => "client.Close:enter" | .closeReturn => "client.Close:return"

/-! ### connection ids: hook ids ↦ model ids -/

/-- The model numbers connections 1 (initial), 2, 3 … in the order of the successful dials.  `connTable` assigns the
    same numbers to the hook ids in the order of the logged `client.dial:done`; the replay then CHECKS at every such
    event that the model's `cur` is that number. -/
def connTable (obs : List Obs) : List (Nat × Nat) :=
  let rec go (obs : List Obs) (retry : List Nat) (next : Nat) (tab : List (Nat × Nat)) : List (Nat × Nat) :=
    match obs with
    | [] => tab
    | o :: os =>
      match o.lab with
      | .attempt => go os (o.gid :: retry) next tab
      | .dialDone x =>
        if x = 0 ∨ (tab.find? (·.1 == x)).isSome then go os retry next tab
        else if retry.contains o.gid then go os retry (next + 1) ((x, next) :: tab)
        else go os retry next ((x, 1) :: tab)
      | _ => go os retry next tab
  go obs [] 2 []

/-- unknown non-nil connections get ids the model never produces -/
def mapConn (tab : List (Nat × Nat)) (x : Nat) : Nat :=
  if x = 0 then 0 else match tab.find? (·.1 == x) with | some e => e.2 | none => 1000000 + x

def translate (obs : List Obs) : List Obs :=
  let tab := connTable obs
  obs.map fun o => match o.lab with
    | .enter x => { o with lab := .enter (mapConn tab x) }
    | .dialDone x => { o with lab := .dialDone (mapConn tab x) }
    | _ => o

inductive Kind | notif | retry | closer
deriving DecidableEq, Repr

/-- a live model thread: which goroutine it belongs to (`none`: a retry goroutine that has not logged anything yet) and
    the hook its last transition left pending -/
structure Thr where
  kind : Kind
  idx : Nat
  gid : Option Nat
  pend : Option Label := none
deriving DecidableEq, Repr

structure Cand where
  s : St
  thrs : List Thr := []          -- newest first: the first thread of a goroutine is the top of its call stack
  nN : Nat := 0                  -- notifier indices handed out
  nC : Nat := 0                  -- closer indices handed out
  initDial : Bool := false       -- the initial `client.dial:done` has been seen
  dead : List Nat := []          -- retry goroutines that have exited (goroutine ids are never reused)
  hist : List Act := []          -- the model actions taken, newest first (the witness)

def once2 : Once → List Nat
  | .free => [0, 0] | .heldC t => [1, t] | .heldR t => [2, t] | .done => [3, 0]

def npc2 : NPc → List Nat
  | .idle => [0, 0] | .occ c => [1, c] | .enter c => [2, c] | .fast c => [3, c] | .wantW c => [4, c]
  | .locked c => [5, c] | .skipUnlock => [6, 0] | .setDo c => [7, c] | .setAt c => [8, c] | .unlock1 c => [9, c]
  | .spawn c => [10, c] | .waitRC c => [11, c] | .wantW2 c => [12, c] | .clrDo c => [13, c] | .clrAt c => [14, c]
  | .unlock2 c => [15, c] | .done => [16, 0]

def rpc1 : RPc → Nat
  | .none => 0 | .top => 1 | .chkMax => 2 | .oWantR => 3 | .oInR => 4 | .closeOld => 5 | .dWantW => 6 | .dCheck => 7
  | .dDialing => 8 | .dUnlockOk => 9 | .dUnlockFail => 10 | .auth => 11 | .sleep => 12 | .cbTest => 13 | .cb => 14
  | .hmOnce => 15 | .hmSignal => 16 | .hmWantR => 17 | .hmInR => 18 | .hmUnlockR => 19 | .hmCb => 20 | .hmFinish => 21
  | .fin .closed => 22 | .fin .success => 23 | .fin .hitmax => 24

def cpc1 : CPc → Nat
  | .start => 0 | .signal => 1 | .wantR => 2 | .inR => 3 | .unlockR => 4 | .cb => 5 | .finish => 6 | .ret => 7

def lab2 : Option Label → List Nat
  | none => [0, 0] | some (.enter c) => [1, c] | some .start => [2, 0] | some .done => [3, 0] | some .attempt => [4, 0]
  | some .failall => [5, 0] | some (.dialDone c) => [6, c] | some .closeEnter => [7, 0] | some .closeReturn => [8, 0]

def b2n (b : Bool) : Nat := if b then 1 else 0

/-- everything of a candidate that can influence the rest of the replay or the checks, as a list of numbers
    (two candidates with the same key are interchangeable; the witness is not part of it) -/
def Cand.key (c : Cand) : List Nat :=
  let s := c.s
  [b2n s.closedSig] ++ once2 s.closeOnce ++
  [s.onCloseCalls, s.readers, b2n s.writer, s.cur, s.nconn, b2n s.reconn, b2n s.recovering, s.count, s.maxR,
   s.lateAttempts, s.fastLockReqs, b2n s.anyReturned, s.dialsAfterReturn, s.afterCalls, s.afterUnguarded,
   s.afterClosedDial, s.afterAfterReturn, s.hitmaxExits, s.rdOnce, s.rdOld, c.nN, c.nC, b2n c.initDial] ++
  (List.range c.nN).flatMap (fun i => npc2 (s.notif i) ++
    [rpc1 (s.rc i), b2n (s.late i), b2n (s.fastTaken i), b2n (s.guardSaw i), b2n (s.sigAtDial i)]) ++
  (List.range c.nC).flatMap (fun i => [cpc1 (s.closer i)]) ++
  (List.range s.nconn).flatMap (fun i => [s.spawns i, s.spawnsOpen i]) ++
  c.thrs.flatMap (fun t => [match t.kind with | .notif => 0 | .retry => 1 | .closer => 2, t.idx,
    match t.gid with | none => 0 | some g => g + 1] ++ lab2 t.pend) ++
  [c.dead.length] ++ c.dead

def hashKey (k : List Nat) : UInt64 :=
  k.foldl (fun h n => (h ^^^ n.toUInt64) * 0x100000001b3) 0xcbf29ce484222325

/-- a function given by a table (the array is a value inside the closure: it is computed once) -/
@[noinline] def ofArr {α} (a : Array α) (d : α) : Nat → α := fun i => a.getD i d

@[noinline] def tabulate {α} (f : Nat → α) (n : Nat) : Array α := ((List.range n).map f).toArray

/-- re-tabulate the function-valued fields (the `upd` chains grow with every step) -/
def Cand.compact (c : Cand) : Cand :=
  let s := c.s
  let aNotif := tabulate s.notif c.nN
  let aRc := tabulate s.rc c.nN
  let aCloser := tabulate s.closer c.nC
  let aSpawns := tabulate s.spawns s.nconn
  let aSpawnsOpen := tabulate s.spawnsOpen s.nconn
  let aLate := tabulate s.late c.nN
  let aFast := tabulate s.fastTaken c.nN
  let aGuard := tabulate s.guardSaw c.nN
  let aSig := tabulate s.sigAtDial c.nN
  { c with s := { s with
      notif := ofArr aNotif .idle, rc := ofArr aRc .none, closer := ofArr aCloser .start,
      spawns := ofArr aSpawns 0, spawnsOpen := ofArr aSpawnsOpen 0,
      late := ofArr aLate false, fastTaken := ofArr aFast false,
      guardSaw := ofArr aGuard false, sigAtDial := ofArr aSig false } }

/-- what the rest of the log says about a goroutine: its next event, if any -/
abbrev Next := Nat → Option Label

def nextOf (rest : List Obs) : Next := fun g => (rest.find? (·.gid == g)).map (·.lab)

def topOf (c : Cand) (g : Nat) : Option Thr := c.thrs.find? (·.gid == some g)

def setThr (c : Cand) (th : Thr) (th' : Thr) : Cand :=
  { c with thrs := c.thrs.map (fun x => if x.kind == th.kind && x.idx == th.idx then th' else x) }

def dropThr (c : Cand) (k : Kind) (i : Nat) : Cand :=
  { c with thrs := c.thrs.filter (fun x => !(x.kind == k && x.idx == i)) }

/-- the call has returned (its thread stays on the goroutine's stack until the goroutine's next event pops it) -/
def finished (c : Cand) (th : Thr) : Bool :=
  th.pend.isNone && match th.kind with
    | .notif => c.s.notif th.idx == .done
    | .closer => c.s.closer th.idx == .ret
    | .retry => false

/-- the running call of a goroutine: its newest thread that has not returned -/
def runningOf (c : Cand) (g : Nat) : Option Thr := c.thrs.find? (fun t => t.gid == some g && !finished c t)

/-- may this thread take an unobserved step now? -/
def canStep (nx : Next) (c : Cand) (th : Thr) : Bool :=
  th.pend.isNone &&
  match th.gid with
  | none => true
  | some g =>
    (match runningOf c g with | some t => t.kind == th.kind && t.idx == th.idx | none => false) &&
    ((nx g).isSome ||
      !(th.kind == .notif && (match c.s.notif th.idx with | .enter _ | .fast _ | .wantW _ => true | _ => false)))

/-- a transition that leaves `l` pending is taken only if `l` is the goroutine's next logged event
    (no next event at all: the log was cut) -/
def pendOk (nx : Next) (th : Thr) (l : Option Label) : Bool :=
  match l, th.gid with
  | some l, some g => (match nx g with | some l' => l == l' | none => true)
  | _, _ => true

def notifPend : NPc → NPc → Option Label
  | .unlock1 _, .spawn _ => some .start
  | .unlock2 _, .done => some .done
  | _, _ => none

def retryPend (cur' : Nat) : RPc → RPc → Option Label
  | .top, .chkMax => some .attempt
  | .closeOld, .dWantW => some .failall
  | .dDialing, .dUnlockOk => some (.dialDone cur')
  | .dDialing, .dUnlockFail => some (.dialDone 0)
  | .chkMax, .hmOnce => some .closeEnter
  | _, .fin .hitmax => some .closeReturn
  | _, _ => none

def closerPend : CPc → CPc → Option Label
  | _, .ret => some .closeReturn
  | _, _ => none

/-- the environment choices that matter at a retry pc -/
def retryChoices : RPc → List (Bool × Bool)
  | .dDialing => [(true, false), (false, false)]
  | .auth => [(true, true), (true, false), (false, false)]
  | _ => [(false, false)]

/-- all successors of `c` by ONE unobserved step of thread `th` -/
def stepThr (nx : Next) (c : Cand) (th : Thr) : List Cand :=
  match th.kind with
  | .notif =>
    let p := c.s.notif th.idx
    -- the receive from the goroutine's channel needs the goroutine to have emitted everything it had to
    let gate := match p with
      | .waitRC _ => (match c.thrs.find? (fun x => x.kind == .retry && x.idx == th.idx) with
                      | some r => r.pend.isNone | none => false)
      | .idle | .done => false
      | _ => true
    if !gate then [] else
    match stepN c.s th.idx 0 false with
    | none => []
    | some s' =>
      let l := notifPend p (s'.notif th.idx)
      if !pendOk nx th l then [] else
      let c1 : Cand := setThr { c with s := s', hist := .n th.idx 0 false :: c.hist } th { th with pend := l }
      match p with
      | .spawn _ => [{ c1 with thrs := c1.thrs ++ [{ kind := .retry, idx := th.idx, gid := none }] }]
      | .waitRC _ =>
        let g := (c.thrs.find? (fun x => x.kind == .retry && x.idx == th.idx)).bind (·.gid)
        let c2 := dropThr c1 .retry th.idx
        [{ c2 with dead := match g with | some g => g :: c2.dead | none => c2.dead }]
      | _ => [c1]
  | .retry =>
    let p := c.s.rc th.idx
    (retryChoices p).filterMap fun (ok, resume) =>
      match stepR c.s th.idx ok resume with
      | none => none
      | some s' =>
        let l := retryPend s'.cur p (s'.rc th.idx)
        if !pendOk nx th l then none else
        some (setThr { c with s := s', hist := .r th.idx ok resume :: c.hist } th { th with pend := l })
  | .closer =>
    let p := c.s.closer th.idx
    match stepC c.s th.idx with
    | none => []
    | some s' =>
      let l := closerPend p (s'.closer th.idx)
      if !pendOk nx th l then [] else
      [setThr { c with s := s', hist := .c th.idx :: c.hist } th { th with pend := l }]

/-- Partial-order reduction (Lipton): a lock acquisition is a right mover, a release a left mover, an access to a
    variable protected by the held lock or to thread-local state a both mover.  So once a thread has taken a lock, the
    rest of its critical section (up to the next hook, which is a fixed point of the global order) can follow at once,
    and so can purely local steps: these pcs are EAGER - the thread is moved on before anybody else is considered.
    Not eager: every test of the close signal / `recovering` / the Once, every lock acquisition, the channel receive,
    and `closeOld` / `cb` (the goroutine may log a nested call while it is there). -/
def eagerPc (c : Cand) (th : Thr) : Bool :=
  match th.kind with
  | .notif => (match c.s.notif th.idx with
      | .locked _ | .skipUnlock | .setDo _ | .setAt _ | .unlock1 _ | .clrDo _ | .clrAt _ | .unlock2 _ => true
      | _ => false)
  | .retry => (match c.s.rc th.idx with
      | .chkMax | .oInR | .dCheck | .dDialing | .dUnlockOk | .dUnlockFail | .auth | .sleep
      | .hmInR | .hmUnlockR | .hmCb => true
      | _ => false)
  | .closer => (match c.s.closer th.idx with
      | .inR | .unlockR | .cb => true
      | _ => false)

/-- run every thread that stands at an eager pc until none does; a branch in which such a thread cannot go on
    (its next hook is not the goroutine's next logged event) is dropped -/
def settle (nx : Next) : Nat → Cand → List Cand
  | 0, c => [c]
  | fuel + 1, c =>
    match c.thrs.find? (fun th => canStep nx c th && eagerPc c th) with
    | none => [c]
    | some th => (stepThr nx c th).flatMap (settle nx fuel)

def expand (nx : Next) (c : Cand) : List Cand :=
  c.thrs.flatMap (fun th => if canStep nx c th then (stepThr nx c th).flatMap (settle nx 32) else [])

abbrev Keyed := UInt64 × List Nat

def keyed (c : Cand) : Keyed := let k := c.key; (hashKey k, k)

def seenIn (seen : List Keyed) (k : Keyed) : Bool := seen.any (fun x => x.1 == k.1 && x.2 == k.2)

/-- add the candidates not seen before (order preserved) -/
def addNew (seen : List Keyed) (acc : List Cand) : List Cand → List Keyed × List Cand
  | [] => (seen, acc.reverse)
  | c :: cs =>
    let k := keyed c
    if seenIn seen k then addNew seen acc cs else addNew (k :: seen) (c :: acc) cs

/-- τ-closure, breadth first (so that a state is first reached by a shortest sequence), at most `fuel` levels and
    `cap` states -/
def closure (nx : Next) (cap : Nat) : Nat → List Keyed → List Cand → List Cand → List Cand
  | 0, _, all, _ => all
  | fuel + 1, seen, all, level =>
    if level.isEmpty ∨ all.length ≥ cap then all else
    let (seen', fresh) := addNew seen [] (level.flatMap (expand nx))
    closure nx cap fuel seen' (all ++ fresh) fresh

def clearPend (c : Cand) (th : Thr) : Cand := setThr c th { th with pend := none }

def pushNotif (c : Cand) (g x : Nat) : List Cand :=
  match stepN c.s c.nN x false with
  | some s' => [{ c with s := s', nN := c.nN + 1, hist := .n c.nN x false :: c.hist,
                         thrs := { kind := .notif, idx := c.nN, gid := some g } :: c.thrs }]
  | none => []

def pushCloser (c : Cand) (g : Nat) : List Cand :=
  [{ c with nC := c.nC + 1, thrs := { kind := .closer, idx := c.nC, gid := some g } :: c.thrs }]

/-- the candidates after the event, without taking any model step except the creation of a notifier -/
def consume : Nat → Cand → Obs → List Cand
  | 0, _, _ => []
  | fuel + 1, c, o =>
    match topOf c o.gid with
    | none =>
      if c.dead.contains o.gid then [] else
      match o.lab with
      | .enter x => pushNotif c o.gid x
      | .closeEnter => pushCloser c o.gid
      | .attempt =>
        (c.thrs.filter (fun t => t.kind == .retry && t.gid.isNone && t.pend == some .attempt)).map fun t =>
          setThr c t { t with gid := some o.gid, pend := none }
      | .dialDone x => if !c.initDial && x == 1 && c.s.cur == 1 then [{ c with initDial := true }] else []
      | _ => []
    | some th =>
      match th.kind with
      | .notif =>
        match o.lab with
        | .start | .done => if th.pend == some o.lab then [clearPend c th] else []
        | _ => if finished c th then consume fuel (dropThr c .notif th.idx) o else []
      | .closer =>
        match o.lab with
        | .closeReturn => if th.pend == some .closeReturn then [clearPend c th] else []
        | _ => if finished c th then consume fuel (dropThr c .closer th.idx) o else []
      | .retry =>
        match o.lab with
        | .attempt | .failall | .dialDone _ | .closeReturn => if th.pend == some o.lab then [clearPend c th] else []
        | .closeEnter =>
          if th.pend == some .closeEnter then [clearPend c th]
          else if th.pend.isNone && c.s.rc th.idx == .cb then pushCloser c o.gid else []
        -- `old.Close(…)` runs the close callback of the connection picked under the read lock: the current one
        | .enter x =>
          if th.pend.isNone && c.s.rc th.idx == .closeOld && x == c.s.cur && x != 0 then pushNotif c o.gid x else []
        | _ => []

/-! ### executable consequences of the invariant, checked on every candidate after every event -/

def invViolation (c : Cand) : Option String :=
  let s := c.s
  let live := (List.range c.nN).filter (fun i => s.rc i != .none)
  if live.length > 1 then some s!"single flight: retry slots {live} are occupied"
  else if !s.writer && s.recovering != s.reconn then some "flag_agrees: recovering ≠ doReconnectting with the lock free"
  else if s.writer && s.readers != 0 then some "rw_exclusion: writer and readers"
  else if s.onCloseCalls > 1 then some "on_close_at_most_once"
  else if s.dialsAfterReturn != 0 then some "no_dial_after_close_returned"
  else if s.lateAttempts != 0 then some "late goroutine attempted"
  else if s.fastLockReqs != 0 then some "fast_path_no_lock"
  else if s.afterUnguarded != 0 then some "after_cb_guarded"
  else if s.afterClosedDial != 0 then some "after_cb_not_after_closed_dial"
  else if (List.range s.nconn).any (fun i => s.spawnsOpen i > 1) then some "one_recovery_per_loss (b)"
  else if !s.closedSig && (List.range s.nconn).any (fun i => s.spawns i > 1) then some "one_recovery_per_loss (a)"
  else none

def showThr (c : Cand) (th : Thr) : String :=
  let pc := match th.kind with
    | .notif => s!"notifier {th.idx} at {repr (c.s.notif th.idx)}"
    | .retry => s!"retry goroutine of notifier {th.idx} at {repr (c.s.rc th.idx)}"
    | .closer => s!"closer {th.idx} at {repr (c.s.closer th.idx)}"
  let g := match th.gid with | some g => s!"g{g}" | none => "g?"
  let p := match th.pend with | some l => s!" pending {l.name}" | none => ""
  s!"{g}={pc}{p}"

def showState (c : Cand) : String :=
  let s := c.s
  s!"closedSig={s.closedSig} once={repr s.closeOnce} writer={s.writer} readers={s.readers} cur={s.cur} " ++
  s!"doReconnectting={s.reconn} recovering={s.recovering} count={s.count} max={s.maxR} onClose={s.onCloseCalls} | " ++
  "; ".intercalate (c.thrs.map (showThr c))

inductive ReplayResult
  /-- every event matched; `acts` is a witness run (oldest first), `final` the state it leads to -/
  | ok (events : Nat) (maxFrontier : Nat) (maxClosure : Nat) (acts : List Act) (final : String)
  /-- event `k` (0-based) cannot be matched: the thread the event belongs to and a model state before it -/
  | diverges (k : Nat) (o : Obs) (thread : String) (state : String)
  /-- a candidate violates an executable consequence of the invariant (a bug of the replay, never of the code) -/
  | broken (k : Nat) (what : String)
  /-- the witness does not re-run (a bug of the replay) -/
  | uncertified (k : Nat)

def closureFuel : Nat := 64
def closureCap : Nat := 4096
def frontierCap : Nat := 1024

def replayFrom : List Cand → Nat → Nat → Nat → List Obs → ReplayResult
  | front, k, mf, mc, [] =>
    match front with
    | [] => .broken k "empty frontier"
    | c :: _ => .ok k mf mc c.hist.reverse (showState c)
  | front, k, mf, mc, o :: rest =>
    let nx := nextOf (o :: rest)
    let (seen, lvl0) := addNew [] [] (front.flatMap (settle nx 32))
    let cl := closure nx closureCap closureFuel seen lvl0 lvl0
    let (_, next) := addNew [] [] (cl.flatMap (fun c => consume 8 c o))
    match next with
    | [] =>
      let c := front.headD { s := init 0 }
      let th := match topOf c o.gid with | some t => showThr c t | none => s!"g{o.gid}=no live thread"
      .diverges k o th (showState c)
    | _ =>
      match next.findSome? invViolation with
      | some w => .broken k w
      | none =>
        let next := (next.take frontierCap).map Cand.compact
        replayFrom next (k + 1) (max mf next.length) (max mc cl.length) rest

/-- the witness re-run through the model's own `run` -/
def certify (m : Nat) (acts : List Act) : Option St := run (init m) acts

/-- replay a log (hook connection ids) against the model with MaxReconnect = m -/
def replay (m : Nat) (obs : List Obs) : ReplayResult :=
  match replayFrom [{ s := init m }] 0 1 1 (translate obs) with
  | .ok k mf mc acts fin => if (certify m acts).isSome then .ok k mf mc acts fin else .uncertified k
  | r => r

/-- whatever the search did: an `ok` answer comes with a run of the Recovery LTS, so every theorem of Recovery.lean
    about `run (init m) acts = some s` applies to the witness.  That the witness matches the log `obs` is NOT part of the
    statement: it is what `consume`, `pendOk` and the `…Pend` tables compute -/
theorem replay_ok_reachable (m : Nat) (obs : List Obs) (k mf mc : Nat) (acts : List Act) (fin : String)
    (h : replay m obs = .ok k mf mc acts fin) : ∃ s, run (init m) acts = some s := by
  apply Option.isSome_iff_exists.mp
  unfold replay at h
  split at h
  · split at h
    · rename_i hc; cases h; exact hc
    · cases h
  · rename_i hne; exact (hne _ _ _ _ _ h).elim

/-! ### build-time regression checks (evaluated by the interpreter at build time, not by the kernel) -/

/-- c08/drop-then-ok (tcp, seed 1): two attempts, the second succeeds, then a user Close -/
def demoLog : List Obs :=
  [⟨7, .dialDone 1⟩, ⟨12, .enter 1⟩, ⟨10, .enter 1⟩, ⟨12, .start⟩, ⟨51, .attempt⟩, ⟨51, .failall⟩, ⟨51, .dialDone 2⟩,
   ⟨53, .enter 2⟩, ⟨55, .enter 2⟩, ⟨51, .attempt⟩, ⟨51, .failall⟩, ⟨51, .dialDone 3⟩, ⟨12, .done⟩,
   ⟨7, .closeEnter⟩, ⟨7, .closeReturn⟩, ⟨36, .enter 3⟩]

def isOk : ReplayResult → Bool | .ok .. => true | _ => false
def divergesAt : ReplayResult → Option Nat | .diverges k .. => some k | _ => none

#guard isOk (replay 0 demoLog)
#guard isOk (replay 2 demoLog)
-- with MaxReconnect = 1 the second attempt would have been the hit-max Close
#guard divergesAt (replay 1 demoLog) == some 10
-- `reconnecting:start` dropped: the retry goroutine has nobody who started it
#guard divergesAt (replay 0 (demoLog.eraseIdx 3)) == some 3
-- `reconnecting:done` before the goroutine's successful dial
#guard divergesAt (replay 0 ((demoLog.take 11) ++ [⟨12, .done⟩, ⟨51, .dialDone 3⟩] ++ demoLog.drop 13)) == some 11
-- a dial after Close returned (the goroutine is alive: it failed its second dial, Close came during the back-off)
def demoLate : List Obs :=
  [⟨7, .dialDone 1⟩, ⟨12, .enter 1⟩, ⟨12, .start⟩, ⟨51, .attempt⟩, ⟨51, .failall⟩, ⟨51, .dialDone 0⟩,
   ⟨7, .closeEnter⟩, ⟨7, .closeReturn⟩]
#guard isOk (replay 0 (demoLate ++ [⟨12, .done⟩]))
#guard isOk (replay 0 (demoLate ++ [⟨51, .attempt⟩, ⟨51, .failall⟩, ⟨12, .done⟩]))
#guard divergesAt (replay 0 (demoLate ++ [⟨51, .attempt⟩, ⟨51, .failall⟩, ⟨51, .dialDone 2⟩])) == some 10
-- two recoveries at once
#guard divergesAt (replay 0 [⟨7, .dialDone 1⟩, ⟨12, .enter 1⟩, ⟨10, .enter 1⟩, ⟨12, .start⟩, ⟨10, .start⟩]) == some 4

end OAP.RecoveryReplay
