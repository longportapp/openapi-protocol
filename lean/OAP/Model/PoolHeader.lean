/-
Pool view, the header instance: the `headerPool` of go/v1/header.go and go/v2/v2_header.go (`defaultHeaderPool`, one
per version) as an instance of the generic interleaving model `OAP.Pool`.

Go statement → model step

  h := defaultHeaderPool.Get()         get + reset   `v := p.Pool.Get()` (hit: a header with whatever its last user left
                                                     in it; miss: `New` = `return &Header{}`, a NEW zero header per call)
                                                     followed by the field resets `h.Type = 0 … h.IsUnpacked = false`:
                                                     `World.poolGet`, a fold over the REGENERATED list of reset
                                                     statements (`Gen.v1HeaderResets` / `Gen.v2HeaderResets`)
  h.X = …, h.UnpackBytes, h.Unpack     use f         any update `f : Header → Header` of the header the caller holds
  Pack:        defer Put(h)            finish, put   (after `headerFromMetadata`)
  UnpackBytes: defer Put(header)       finish, put   on every return path
  Unpack (streaming):                                `headerFromContext`: Get only if no header is parked in ctx
      done || err != nil               finish, put   `ctx.SetHeader(nil); defaultHeaderPool.Put(header)`
      frame incomplete                 park          the header STAYS in the connection's Context (`ctx.SetHeader(h)`);
      next Unpack on the connection    resume        `h = ctx.GetHeader().(*Header)`: the same object, no Get, no reset

A "thread" of this instance is the decoding (or encoding) of ONE frame; for the streaming decoder it spans as many
`Unpack` calls on the connection as the frame needs chunks, with the header parked in between — other connections,
and one-shot calls on the same connection (`UnpackBytes` takes its own header), go on meanwhile.

`ResetErases` is not an assumption here: it is PROVED from the regenerated reset lists (`reset_erases`, the content of
`C11.every_field_reset` / `C11.get_fresh`).
-/
import OAP.Model.Pool
import OAP.Model.World
namespace OAP.PoolHeader
open OAP.Pool OAP.World OAP.Frame

/-- `headerPool.Get`'s field resets on a recycled header with ARBITRARY stale content give the zero header, in both
versions. (A v1 header has no MetadataLength field: it is represented with that field 0, as in `World.take`.) -/
theorem poolGet_zero (v : Ver) (stale : Header) :
    poolGet v (match v with | .v1 => { stale with metadataLength := 0 } | .v2 => stale) = zero := by
  cases stale
  cases v <;> rfl

/-- the pooled `*Header` of version `v`. `reset` = the field resets of `headerPool.Get`; a `use` applies an arbitrary
update to the header the caller holds (`headerFromMetadata`'s assignments, `Header.UnpackBytes`, `Header.Unpack`, the
`BeginUnpack` / `IsUnpacked` flags); the "result" is the header itself — everything a codec call returns is a function
of it and of the caller's own arguments. -/
def HB (v : Ver) : Beh Header Unit (Header → Header) Header :=
  { new := zero,
    reset := fun stale _ => poolGet v (match v with | .v1 => { stale with metadataLength := 0 } | .v2 => stale),
    useStep := fun h f => f h,
    result := fun h => h }

theorem reset_erases (v : Ver) : (HB v).ResetErases := by
  intro s s' _
  simp only [HB]
  rw [poolGet_zero v s, poolGet_zero v s']

theorem HB_reset (v : Ver) (stale : Header) : (HB v).reset stale () = zero := poolGet_zero v stale

theorem HB_seq (v : Ver) (fs : List (Header → Header)) : (HB v).seqState () fs = fs.foldl (fun h f => f h) zero := by
  simp only [Beh.seqState]
  rw [HB_reset]
  rfl

/-- a dirty response header, as a decoder leaves it in the pool -/
def dirty : Header := { requestId := 99, statusCode := 5, type := 2, bodyLength := 7, isUnpacked := true, metadataLength := 3 }

def setType (x : UInt8) : Header → Header := fun h => { h with type := x }
def setRid (x : UInt32) : Header → Header := fun h => { h with requestId := x }
def setUnpacked : Header → Header := fun h => { h with isUnpacked := true }

/-- pool = two dirty headers. Thread 0 (a streaming decode) recycles header 0, fills its type, PARKS it (frame
incomplete); meanwhile thread 1 (a Pack) recycles header 1, thread 2 (a one-shot decode) misses and gets the new header 2,
both work and finish; thread 0 resumes, completes and finishes; thread 3 then recycles the header thread 1 put back. -/
def demoActs : List (Act Unit (Header → Header)) :=
  [.get 0 () (some 0), .reset 0, .use 0 (setType 3), .park 0,
   .get 1 () (some 1), .get 2 () none, .reset 2, .reset 1, .use 1 (setRid 7), .use 2 (setType 2), .finish 1 true,
   .use 2 (setRid 8), .finish 2 true,
   .resume 0, .use 0 setUnpacked, .get 3 () (some 1), .reset 3, .finish 0 true, .finish 3 true]

def demoInit : St Header Unit (Header → Header) Header := init [0, 1] (fun _ => dirty) 2

/-- the results: each call ends with the zero header plus its OWN updates; nothing of `dirty`, nothing of the others
(thread 3 reuses the header in which thread 1 left request id 7: it sees request id 0). Both versions. -/
example : ∀ v : Ver,
    (run (HB v) demoInit demoActs).map (fun s => ((s.pc 0).out?, (s.pc 1).out?, (s.pc 2).out?)) =
      some (some { type := 3, isUnpacked := true }, some { requestId := 7 }, some { type := 2, requestId := 8 }) ∧
    (run (HB v) demoInit demoActs).map (fun s => ((s.pc 3).out?, s.pool, s.next)) =
      some (some {}, [1, 0, 2], 3) := by
  intro v; cases v <;> decide
/-- while thread 0's header is parked, it is held by thread 0 and not in the pool; threads 1 and 2 hold other headers -/
example : ∀ v : Ver,
    (run (HB v) demoInit (demoActs.take 6)).map (fun s => ((s.pc 0).holds, (s.pc 1).holds, (s.pc 2).holds)) =
      some (some 0, some 1, some 2) ∧
    (run (HB v) demoInit (demoActs.take 6)).map (fun s => s.pool) = some [] := by
  intro v; cases v <;> decide
/-- a parked header cannot be taken by anybody else -/
example : ∀ v : Ver, (run (HB v) demoInit [.get 0 () (some 0), .reset 0, .park 0, .get 1 () (some 0)]).isNone = true := by
  intro v; cases v <;> decide

end OAP.PoolHeader
