/-
Model of go/metadata.go: length-prefixed strings (marshalString / unmarshalStringLength),
the pair decoder (UnmarshalValues with its getString closure and `for` loop), the encoder
(MarshalValues: skip empty key, skip over-long strings, break at the first pair that does
not fit) and Set/Get. Lengths are Nat (Go ints that are lengths); the bit-level
expressions come from the extractor. `strings.ToLower` is a parameter `lower`.
Go maps are association lists; the order in which MarshalValues visits the map is an
explicit argument of `marshalValues`, and `marshalMap` (what `Pack` calls) visits in sorted key order.
A list stands for a map only while its keys are distinct (`C09.deterministic` assumes it): `set` appends and
does not remove an earlier entry for the key (`lookup` / `get` take the later one, `marshalMap` would emit both, where Go emits one).
The theorems about one string (`usl_*`, `getString_*`) stand in this file because the model's `pairsLoop` terminates by
`getString_rest_lt`.
-/
import OAP.Base
import OAP.Gen.Facts
namespace OAP.Metadata
open OAP

def len7 : UInt8 := UInt8.ofNat Gen.protocol_length7Bit
def len15 : UInt8 := UInt8.ofNat Gen.protocol_length15Bit

abbrev Pair := Bytes × Bytes

/-- `marshalString(str) (data []byte, tooLong bool)`; `none` = tooLong -/
def marshalString (s : Bytes) : Option Bytes :=
  let l := s.length
  if l ≤ Gen.protocol_max7BitLength then some (UInt8.ofNat l :: s)
  else if l ≤ Gen.protocol_max15BitLength then some (Gen.mdLenFirst l :: Gen.mdLenSecond l :: s)
  else none

/-- `unmarshalStringLength(data) (l int, bitSize uint8, err error)` -/
def unmarshalStringLength (data : Bytes) : Res (Nat × UInt8) :=
  match data with
  | [] => .ok (0, len7)
  | b0 :: rest =>
    let bitSize := Gen.mdBitSize b0
    if bitSize = len7 then .ok (Gen.mdLen7 b0, bitSize)
    else if bitSize = len15 then
      match rest with
      | [] => .err "invalid metadata binary data"
      | b1 :: _ =>
        let l := Gen.mdLen15 (Gen.mdLen15First b0) (Gen.mdLen15Second b1)
        if l ≤ Gen.protocol_max7BitLength then .err "invalid metadata binary data" else .ok (l, bitSize)
    else .ok (0, bitSize)

/-- the `getString` closure of UnmarshalValues, as a function of the remaining data:
returns the string and the new remaining data. `sl > l-1` on Go ints is `sl + 1 > l`. -/
def getString (data : Bytes) : Res (Bytes × Bytes) :=
  let l := data.length
  match unmarshalStringLength data with
  | .err e => .err e
  | .panic w => .panic w
  | .ok (sl, bitSize) =>
    if bitSize = len7 then
      if sl + 1 > l then .err "invalid metadata binary data"
      else do
        let str ← Bytes.slice data 1 (sl + 1)
        let rest ← Bytes.sliceFrom data (sl + 1)
        pure (str, rest)
    else if bitSize = len15 then
      if sl + 2 > l then .err "invalid metadata binary data"
      else do
        let str ← Bytes.slice data 2 (sl + 2)
        let rest ← Bytes.sliceFrom data (sl + 2)
        pure (str, rest)
    else .err "invalid metadata binary data"

/-- canonical length prefix and canonical string encoding (the *specification* side) -/
def encLen (n : Nat) : Bytes :=
  if n ≤ 127 then [UInt8.ofNat n] else [UInt8.ofNat (n / 256 + 128), UInt8.ofNat (n % 256)]
def enc (s : Bytes) : Bytes := encLen s.length ++ s
def encPair (kv : Pair) : Bytes := enc kv.1 ++ enc kv.2
def encPairs (ps : List Pair) : Bytes := ps.flatMap encPair

-- the regenerated constants as numbers: a change in go/metadata.go shows here first
theorem max7_eq : Gen.protocol_max7BitLength = 127 := rfl
theorem max15_eq : Gen.protocol_max15BitLength = 32767 := rfl
theorem maxString_eq : Gen.protocol_maxStringLength = 32767 := rfl

theorem byte_tab : ∀ b : UInt8,
    (b.toNat < 128 → Gen.mdBitSize b = len7 ∧ Gen.mdLen7 b = b.toNat) ∧
    (128 ≤ b.toNat → Gen.mdBitSize b = len15 ∧ Gen.mdLen15First b = b.toNat - 128) :=
  forall_byte (by decide +kernel)

theorem len15_ne_len7 : len15 ≠ len7 := by decide

theorem usl_lo (b0 : UInt8) (rest : Bytes) (hb : b0.toNat < 128) :
    unmarshalStringLength (b0 :: rest) = .ok (b0.toNat, len7) := by
  obtain ⟨h1, h2⟩ := (byte_tab b0).1 hb
  simp only [unmarshalStringLength, h1, h2, ↓reduceIte]

theorem usl_hi_nil (b0 : UInt8) (hb : 128 ≤ b0.toNat) :
    unmarshalStringLength [b0] = .err "invalid metadata binary data" := by
  obtain ⟨h2, _⟩ := (byte_tab b0).2 hb
  simp only [unmarshalStringLength, h2, len15_ne_len7, ↓reduceIte]

theorem usl_hi (b0 b1 : UInt8) (rest : Bytes) (hb : 128 ≤ b0.toNat) :
    unmarshalStringLength (b0 :: b1 :: rest) =
      if (b0.toNat - 128) * 256 + b1.toNat ≤ 127 then .err "invalid metadata binary data"
      else .ok ((b0.toNat - 128) * 256 + b1.toNat, len15) := by
  obtain ⟨h2, h3⟩ := (byte_tab b0).2 hb
  have e : Gen.mdLen15 (Gen.mdLen15First b0) (Gen.mdLen15Second b1) = (b0.toNat - 128) * 256 + b1.toNat := by
    simp [Gen.mdLen15, Gen.mdLen15Second, h3]
  simp only [unmarshalStringLength, h2, len15_ne_len7, ↓reduceIte, e, max7_eq]

/-- core's `UInt8.toNat_ofNat_of_lt'` with the bound as a numeral (there it is `UInt8.size`, which `omega` does not unfold) -/
theorem ofNat_toNat_lt (n : Nat) (h : n < 256) : (UInt8.ofNat n).toNat = n := UInt8.toNat_ofNat_of_lt' h

/-! The length prefix, once: the length decoder inverts `encLen` (`usl_encLen`), and an input either begins with the `encLen` of a
representable length or is refused (`getString_cases`); what `getString` does after such a prefix is `getString_encLen`. -/

theorem usl_encLen (n : Nat) (r : Bytes) (h : n ≤ 32767) :
    unmarshalStringLength (encLen n ++ r) = .ok (n, if n ≤ 127 then len7 else len15) := by
  unfold encLen
  split
  · rw [List.singleton_append, usl_lo _ r (by rw [ofNat_toNat_lt n (by omega)]; omega), ofNat_toNat_lt n (by omega)]
  · have e0 := ofNat_toNat_lt (n / 256 + 128) (by omega)
    have e1 := ofNat_toNat_lt (n % 256) (by omega)
    have el : (n / 256 + 128 - 128) * 256 + n % 256 = n := by omega
    rw [List.cons_append, List.cons_append, List.nil_append, usl_hi _ _ r (by omega), e0, e1, el, if_neg (by omega)]

theorem encLen_length (n : Nat) : (encLen n).length = if n ≤ 127 then 1 else 2 := by
  unfold encLen; split <;> rfl

/-- the two slices `getString` takes, past a prefix `p` of known length -/
theorem slices_after (p r : Bytes) (n k : Nat) (hk : p.length = k) (hn : n ≤ r.length) :
    Bytes.slice (p ++ r) k (n + k) = .ok (r.take n) ∧ Bytes.sliceFrom (p ++ r) (n + k) = .ok (r.drop n) := by
  subst hk
  rw [Bytes.slice_ok _ _ _ (by omega) (by rw [List.length_append]; omega),
    Bytes.sliceFrom_ok _ _ (by rw [List.length_append]; omega), Nat.add_comm n, List.take_append, List.drop_append]
  simp

theorem getString_encLen (n : Nat) (r : Bytes) (h : n ≤ 32767) :
    getString (encLen n ++ r) =
      if r.length < n then .err "invalid metadata binary data" else .ok (r.take n, r.drop n) := by
  have hl := encLen_length n
  unfold getString
  rw [usl_encLen n r h, List.length_append, hl]
  by_cases hr : r.length < n
  · rw [if_pos hr]
    by_cases h7 : n ≤ 127 <;> simp only [h7, if_pos, if_neg, not_false_eq_true, len15_ne_len7] <;> exact if_pos (by omega)
  · obtain ⟨s1, s2⟩ := slices_after (encLen n) r n _ rfl (by omega)
    rw [hl] at s1 s2
    rw [if_neg hr]
    by_cases h7 : n ≤ 127 <;> simp only [h7, if_pos, if_neg, not_false_eq_true, len15_ne_len7] at s1 s2 ⊢ <;>
      rw [if_neg (by omega), s1, s2] <;> rfl

/-- an input begins with the canonical prefix of a representable length, or is refused -/
theorem getString_cases (d : Bytes) :
    (∃ n r, n ≤ 32767 ∧ d = encLen n ++ r) ∨ getString d = .err "invalid metadata binary data" := by
  have he : ∀ {d e}, unmarshalStringLength d = .err e → getString d = .err e := fun h => by unfold getString; rw [h]
  match d with
  | [] => exact .inr rfl
  | b0 :: t =>
    have := b0.toNat_lt
    by_cases hb : b0.toNat < 128
    · exact .inl ⟨b0.toNat, t, by omega, by rw [encLen, if_pos (by omega), UInt8.ofNat_toNat]; rfl⟩
    · match t with
      | [] => exact .inr (he (usl_hi_nil b0 (by omega)))
      | b1 :: t =>
        have := b1.toNat_lt
        have hu := usl_hi b0 b1 t (by omega)
        generalize hn : (b0.toNat - 128) * 256 + b1.toNat = n at hu
        by_cases h7 : n ≤ 127
        · exact .inr (he (hu.trans (if_pos h7)))
        · -- the two prefix bytes are the canonical ones of their value
          have hd : n / 256 + 128 = b0.toNat ∧ n % 256 = b1.toNat := by omega
          exact .inl ⟨n, t, by omega, by rw [encLen, if_neg h7, hd.1, hd.2, UInt8.ofNat_toNat, UInt8.ofNat_toNat]; rfl⟩

theorem getString_noPanic (data : Bytes) : (getString data).isPanic = false := by
  rcases getString_cases data with ⟨n, r, hn, rfl⟩ | he
  · rw [getString_encLen n r hn]; split <;> rfl
  · rw [he]; rfl

/-- ONE STRING: `getString` accepts exactly the canonical encodings of representable strings, followed by anything -/
theorem getString_ok_iff {data s rest : Bytes} :
    getString data = .ok (s, rest) ↔ data = enc s ++ rest ∧ s.length ≤ 32767 := by
  constructor
  · intro h
    rcases getString_cases data with ⟨n, r, hn, rfl⟩ | he
    · rw [getString_encLen n r hn] at h
      split at h
      · cases h
      · cases h
        have hl : (r.take n).length = n := by rw [List.length_take]; omega
        exact ⟨by rw [enc, hl, List.append_assoc, List.take_append_drop], by omega⟩
    · rw [he] at h; cases h
  · rintro ⟨rfl, hs⟩
    rw [enc, List.append_assoc, getString_encLen _ _ hs, if_neg (by rw [List.length_append]; omega), List.take_left, List.drop_left]

theorem getString_rest_lt (data s rest : Bytes) (h : getString data = .ok (s, rest)) :
    rest.length < data.length := by
  obtain ⟨rfl, _⟩ := getString_ok_iff.mp h
  have := encLen_length s.length
  simp only [enc, List.length_append]; split at this <;> omega

/-- the `for` loop of UnmarshalValues: raw pairs in order of appearance. Well-founded on the
remaining length — the termination proof is `getString_rest_lt` (every string consumes ≥ 1 byte). -/
def pairsLoop (data : Bytes) : Res (List Pair) :=
  if _hd : data = [] then .ok [] else
  match _hk : getString data with
  | .err e => .err e
  | .panic w => .panic w
  | .ok (k, r1) =>
    match _hv : getString r1 with
    | .err e => .err e
    | .panic w => .panic w
    | .ok (v, r2) =>
      match pairsLoop r2 with
      | .err e => .err e
      | .panic w => .panic w
      | .ok ps => .ok ((k, v) :: ps)
termination_by data.length
decreasing_by
  have := getString_rest_lt data k r1 _hk
  have := getString_rest_lt r1 v r2 _hv
  omega

/-- `UnmarshalValues` up to key lower-casing and map insertion: the raw pairs -/
def rawPairs (data : Bytes) : Res (List Pair) :=
  if data.length = 0 then .ok [] else if data.length < 2 then .err "invalid metadata binary data" else pairsLoop data

/-- later-wins lookup in an association list (Go map after the insertions in order) -/
def lookup (m : List Pair) (k : Bytes) : Option Bytes := (m.reverse.find? (fun kv => kv.1 == k)).map (·.2)

/-- `UnmarshalValues`: `values[strings.ToLower(key)] = val` for every pair in order -/
def unmarshalValues (lower : Bytes → Bytes) (data : Bytes) : Res (List Pair) :=
  (rawPairs data).map (fun ps => ps.map (fun kv => (lower kv.1, kv.2)))

/-- the loop of MarshalValues over a given visiting order, `data` being the block so far -/
def marshalLoop (max : Int) : List Pair → Bytes → Bytes
  | [], data => data
  | (k, v) :: rest, data =>
    if k = [] then marshalLoop max rest data
    else match marshalString k with
      | none => marshalLoop max rest data
      | some kb =>
        match marshalString v with
        | none => marshalLoop max rest data
        | some vb =>
          if (kb.length + vb.length + data.length : Int) > max then data   -- break
          else marshalLoop max rest (data ++ kb ++ vb)

/-- `MarshalValues(max)` visiting the map in `order` -/
def marshalValues (order : List Pair) (max : Int) : Bytes :=
  if order = [] then [] else marshalLoop max order []

/-- Go's `sort.Strings` order on keys: bytewise lexicographic -/
def keyLe (a b : Pair) : Bool := decide (a.1 ≤ b.1)
def sortPairs (m : List Pair) : List Pair := m.mergeSort keyLe

/-- `MarshalValues(max)`: keys visited in sorted order (`sort.Strings(keys)`) -/
def marshalMap (m : List Pair) (max : Int) : Bytes := marshalValues (sortPairs m) max

/-- `Set(k, v)`: length guards, then `Values[strings.ToLower(k)] = v` -/
def set (lower : Bytes → Bytes) (m : List Pair) (k v : Bytes) : Res (List Pair) :=
  if k.length > Gen.protocol_maxStringLength then .err "key length should not greate 2^14 - 1"
  else if v.length > Gen.protocol_maxStringLength then .err "value length should not greate 2^14 - 1"
  else .ok (m ++ [(lower k, v)])

/-- `Get(k)` -/
def get (lower : Bytes → Bytes) (m : List Pair) (k : Bytes) : Bytes := (lookup m (lower k)).getD []

end OAP.Metadata
