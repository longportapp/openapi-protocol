/-
Pool view: N concurrent calls over ONE shared `sync.Pool`, as a small-step interleaving model (C10 `pool_exclusive`,
C11 `concurrent_isolated`). Generic in the pooled object; the instances (gzip writer pool, gzip reader pool, v1/v2
header pool) are in `OAP.Model.PoolGzip` and `OAP.Model.PoolHeader`.

Go code mirrored (go/gzip/gzip.go, go/v1/header.go, go/v2/v2_header.go): every user of a pool runs the same
straight-line program

    z := pool.Get()          get     the pool hands out SOME pooled object, or — when it is empty, or when the caller's
                                     per-P cache misses although another P's cache holds objects — a NEW one (`New`)
    z.Reset(input)           reset   gzip.Writer.Reset(w) / gzip.Reader.Reset(r) / the field resets of headerPool.Get
    z.Write / z.Read / h.f = use     zero or more steps that read and write ONLY the object the caller holds
    … return f(z)            finish  the call's result is computed from the object's state, and the object is put back
    pool.Put(z)                      (`defer z.pool.Put(z)`, `Put` on io.EOF, `Put` after a failed Reset) or just dropped
                                     (a reader whose stream ended in an error; a header pool user never drops)

and `sync.Pool` itself may drop any pooled object at any time (`gc`: the victim cache is cleared by the collector).
The streaming decoder keeps ("parks") its header in the connection's Context between two `Unpack` calls while a
frame is incomplete: `park` / `resume` — the thread keeps the object, nothing else happens.

Model. Objects have an identity (`Nat`) and a mutable state `σ`; the pool is a LIST of identities (a list, not a
set, so that a double `Put` is expressible: see `double_put_breaks`); `next` is the allocation counter of `New`.
A thread's pc records the object it holds, the input of its call and the arguments of the `use` steps it has made so far.
Steps of different threads interleave arbitrarily: the action names the thread.

What is assumed (= what the theorems trust):
  * `sync.Pool` semantics: `Get` returns an object that was `Put` and not handed out since, or a NEW one; pooled
    objects may vanish; `New` allocates (fresh identity) — for the gzip pools this is the closure pinned by
    `C10.pool_source` (`return &writer{Writer: gzip.NewWriter(…)}`: a composite literal, evaluated at every call);
  * `ResetErases`: `reset s i` does not depend on `s` (proved for the header pools from the regenerated reset lists,
    `PoolHeader.reset_erases`; an assumption on compress/gzip's `Reset` for the gzip pools);
  * a thread touches only the object it holds (built into `step`: `use t` rewrites `obj o` for the `o` in `pc t`);
  * `finish` is one step: the result is taken and the object put back atomically. In the Go code the caller reads its
    result from memory of its OWN (`buf.Bytes()`, the bytes `ReadFrom` has collected, the returned packet) after the
    `Put`; the pooled object may still point to that memory, and the next holder `Reset`s it before any use — a
    `Reset` that wrote to the OLD destination would break this, and is excluded with `ResetErases`.

Proved for every interleaving (`run (init pool obj next) acts = some s`, any initial pool with ARBITRARY object states): the
invariant `PInv` — every object is held by at most one thread or is in the pool at most once, never both, and a held object is
in the state its holder's own steps put it in — and from it `pool_exclusive`; the serial schedule is one of the interleavings
(`serial_run`).  Negative results (`…_breaks`, `by decide` on literal runs): the model can express the bugs, and the theorem
is false for them.
-/
import OAP.LTS
namespace OAP.Pool

def upd {α} (f : Nat → α) (k : Nat) (v : α) : Nat → α := fun x => if x = k then v else f x

/-- the behaviour of the pooled object: `σ` its state, `In` the argument of `Reset`, `U` the argument of one `use`
step (`Write(p)`, `Read(p)`, a field update), `Out` what the caller extracts at the end -/
structure Beh (σ In U Out : Type) where
  new : σ                      -- the state of an object made by `New`
  reset : σ → In → σ
  useStep : σ → U → σ
  result : σ → Out

def Beh.ResetErases {σ In U Out} (B : Beh σ In U Out) : Prop := ∀ (s s' : σ) (i : In), B.reset s i = B.reset s' i

/-- the object's state after the call `Reset(i); use u₁; …; use uₖ` made ALONE on a fresh object -/
def Beh.seqState {σ In U Out} (B : Beh σ In U Out) (i : In) (us : List U) : σ := us.foldl B.useStep (B.reset B.new i)

def Beh.seqResult {σ In U Out} (B : Beh σ In U Out) (i : In) (us : List U) : Out := B.result (B.seqState i us)

/-- a thread: one call. `got`: `Get` has returned object `o`, `Reset` not yet executed. `run`: after `Reset`, `us` = the
arguments of the `use` steps made so far, oldest first. `parked`: the same, the object parked in the caller's own
context between two calls (streaming decoder). `fin`: returned `out`, holds nothing. -/
inductive Pc (In U Out : Type) where
  | idle
  | got (o : Nat) (i : In)
  | run (o : Nat) (i : In) (us : List U)
  | parked (o : Nat) (i : In) (us : List U)
  | fin (i : In) (us : List U) (out : Out)
  deriving DecidableEq, Repr

def Pc.holds {In U Out} : Pc In U Out → Option Nat
  | .got o _ => some o
  | .run o _ _ => some o
  | .parked o _ _ => some o
  | _ => none

def Pc.out? {In U Out} : Pc In U Out → Option Out
  | .fin _ _ out => some out
  | _ => none

structure St (σ In U Out : Type) where
  pool : List Nat              -- the sync.Pool: identities of the pooled objects
  obj : Nat → σ                -- the heap: state of every object
  next : Nat                   -- allocation counter: identities ≥ next have never been handed out
  pc : Nat → Pc In U Out

inductive Act (In U : Type) where
  | get (t : Nat) (i : In) (hit : Option Nat)  -- `Get`: `some o` = the pool hands out its object o; `none` = miss, `New`
  | reset (t : Nat)
  | use (t : Nat) (u : U)
  | park (t : Nat)
  | resume (t : Nat)
  | finish (t : Nat) (put : Bool)              -- compute the result; `put` = the object goes back (else it is dropped)
  | gc (o : Nat)                               -- sync.Pool drops a pooled object

variable {σ In U Out : Type}

def step (B : Beh σ In U Out) (s : St σ In U Out) : Act In U → Option (St σ In U Out)
  | .get t i hit =>
      match s.pc t with
      | .idle =>
          match hit with
          | some o => if o ∈ s.pool then some { s with pool := s.pool.erase o, pc := upd s.pc t (.got o i) } else none
          | none => some { s with obj := upd s.obj s.next B.new, next := s.next + 1, pc := upd s.pc t (.got s.next i) }
      | _ => none
  | .reset t =>
      match s.pc t with
      | .got o i => some { s with obj := upd s.obj o (B.reset (s.obj o) i), pc := upd s.pc t (.run o i []) }
      | _ => none
  | .use t u =>
      match s.pc t with
      | .run o i us => some { s with obj := upd s.obj o (B.useStep (s.obj o) u), pc := upd s.pc t (.run o i (us ++ [u])) }
      | _ => none
  | .park t =>
      match s.pc t with
      | .run o i us => some { s with pc := upd s.pc t (.parked o i us) }
      | _ => none
  | .resume t =>
      match s.pc t with
      | .parked o i us => some { s with pc := upd s.pc t (.run o i us) }
      | _ => none
  | .finish t put =>
      match s.pc t with
      | .run o i us => some { s with pool := if put then o :: s.pool else s.pool,
                                     pc := upd s.pc t (.fin i us (B.result (s.obj o))) }
      | _ => none
  | .gc o => if o ∈ s.pool then some { s with pool := s.pool.erase o } else none

/-- all threads idle; the pool holds the objects `pool`, whose states `obj` are ARBITRARY (stale) -/
def init (pool : List Nat) (obj : Nat → σ) (next : Nat) : St σ In U Out :=
  { pool := pool, obj := obj, next := next, pc := fun _ => .idle }

def run (B : Beh σ In U Out) : St σ In U Out → List (Act In U) → Option (St σ In U Out)
  | s, [] => some s
  | s, a :: as => (step B s a).bind (fun s' => run B s' as)

theorem isRun (B : Beh σ In U Out) : LTS.IsRun (step B) (run B) := ⟨fun _ => rfl, fun _ _ _ => rfl⟩

structure PInv (B : Beh σ In U Out) (s : St σ In U Out) : Prop where
  nodup : s.pool.Nodup
  heldOut : ∀ t o, (s.pc t).holds = some o → o ∉ s.pool
  heldUniq : ∀ t u o, (s.pc t).holds = some o → (s.pc u).holds = some o → t = u
  /-- `New` has never handed out an identity ≥ next: what it hands out next is new -/
  poolLt : ∀ o, o ∈ s.pool → o < s.next
  heldLt : ∀ t o, (s.pc t).holds = some o → o < s.next
  heldState : ∀ t o i us, s.pc t = .run o i us ∨ s.pc t = .parked o i us → s.obj o = B.seqState i us
  finOut : ∀ t i us out, s.pc t = .fin i us out → out = B.seqResult i us

/-- the initial pools the theorems quantify over: no duplicates, identities below the allocation counter. The object
STATES are unconstrained. -/
def InitOk (pool : List Nat) (next : Nat) : Prop := pool.Nodup ∧ ∀ o, o ∈ pool → o < next

theorem inv_init (B : Beh σ In U Out) (pool : List Nat) (obj : Nat → σ) (next : Nat) (h : InitOk pool next) :
    PInv B (init pool obj next : St σ In U Out) := by
  obtain ⟨h1, h2⟩ := h
  constructor <;> simp_all [init, Pc.holds]

theorem seqState_nil (B : Beh σ In U Out) (i : In) : B.seqState i [] = B.reset B.new i := rfl
theorem seqState_snoc (B : Beh σ In U Out) (i : In) (us : List U) (u : U) :
    B.seqState i (us ++ [u]) = B.useStep (B.seqState i us) u := by
  simp [Beh.seqState, List.foldl_append]

theorem holds_got (o : Nat) (i : In) : (Pc.got o i : Pc In U Out).holds = some o := rfl
theorem holds_run (o : Nat) (i : In) (us : List U) : (Pc.run o i us : Pc In U Out).holds = some o := rfl
theorem holds_parked (o : Nat) (i : In) (us : List U) : (Pc.parked o i us : Pc In U Out).holds = some o := rfl
theorem holds_fin (i : In) (us : List U) (out : Out) : (Pc.fin i us out : Pc In U Out).holds = none := rfl
theorem holds_idle : (Pc.idle : Pc In U Out).holds = none := rfl

/-- `pclose h`, for `h : PInv B s`, proves `PInv B s'` of a post-state written out: one goal per clause, `upd` unfolded, `grind` -/
macro "pgrind" : tactic => `(tactic|
  grind [holds_got, holds_run, holds_parked, holds_fin, holds_idle, seqState_nil, seqState_snoc, Beh.seqResult,
    List.Nodup.mem_erase_iff, List.Nodup.erase, List.nodup_cons])

macro "pclose" h:ident : tactic => `(tactic|
  (cases $h:ident; constructor <;> (try simp only [upd]) <;> (first | assumption | (intros; pgrind))))

theorem Beh.ResetErases.new {B : Beh σ In U Out} (he : B.ResetErases) (x : σ) (i : In) : B.reset x i = B.reset B.new i :=
  he x B.new i

section
-- attributes, not arguments of `grind`: an argument is elaborated again at every call
attribute [local grind] upd Beh.seqResult
attribute [local grind! .] holds_got holds_run holds_parked
attribute [local grind =] holds_fin seqState_nil seqState_snoc List.Nodup.mem_erase_iff

/-- Shape of the proof: head of `OAP/LTS.lean`.  The five ownership fields rest on each other alone; the state of a held object
rests on `heldUniq` and `heldLt` (nobody else writes to it, and a new object is nobody's), and at `reset` on `ResetErases`. -/
theorem inv_step (B : Beh σ In U Out) (he : B.ResetErases) (s : St σ In U Out) (a : Act In U) (s' : St σ In U Out)
    (i : PInv B s) (hs : step B s a = some s') : PInv B s' := by
  revert hs
  fun_cases step B s a <;> rintro ⟨⟩ <;>
    (constructor
     case nodup => first | with_reducible exact i.nodup | (have := i.nodup; have := i.heldOut; intros; grind)
     case heldOut => first | with_reducible exact i.heldOut | (have := i.nodup; have := i.heldOut; have := i.heldUniq; have := i.poolLt; intros; grind)
     case heldUniq => first | with_reducible exact i.heldUniq | (have := i.heldOut; have := i.heldUniq; have := i.heldLt; intros; grind)
     case poolLt => first | with_reducible exact i.poolLt | (have := i.poolLt; have := i.heldLt; intros; grind)
     case heldLt => first | with_reducible exact i.heldLt | (have := i.poolLt; have := i.heldLt; intros; grind)
     case heldState => first | with_reducible exact i.heldState | (have := he.new; have := i.heldUniq; have := i.heldLt; have := i.heldState; intros; grind)
     case finOut => first | with_reducible exact i.finOut | (have := i.heldState; have := i.finOut; intros; grind))
end

theorem inv_reach (B : Beh σ In U Out) (he : B.ResetErases) (pool : List Nat) (obj : Nat → σ) (next : Nat)
    (h0 : InitOk pool next) (acts : List (Act In U)) (s : St σ In U Out)
    (h : run B (init pool obj next) acts = some s) : PInv B s :=
  (isRun B).inv (inv_step B he) acts _ s (inv_init B pool obj next h0) h

/-- In every interleaving, no two threads ever hold the same object at once — and an object a
thread holds is not in the pool, which holds every object at most once -/
theorem no_shared_object (B : Beh σ In U Out) (he : B.ResetErases) (pool : List Nat) (obj : Nat → σ) (next : Nat)
    (h0 : InitOk pool next) (acts : List (Act In U)) (s : St σ In U Out)
    (h : run B (init pool obj next) acts = some s) :
    (∀ t u o, t ≠ u → (s.pc t).holds = some o → (s.pc u).holds ≠ some o) ∧
    (∀ t o, (s.pc t).holds = some o → o ∉ s.pool) ∧ s.pool.Nodup := by
  have i := inv_reach B he pool obj next h0 acts s h
  exact ⟨fun t u o htu ht hu => htu (i.heldUniq t u o ht hu), i.heldOut, i.nodup⟩

/-- identities handed out by `New` are new: in every reachable state the object the next miss would hand out is
neither in the pool nor held by anybody -/
theorem new_object_fresh (B : Beh σ In U Out) (he : B.ResetErases) (pool : List Nat) (obj : Nat → σ) (next : Nat)
    (h0 : InitOk pool next) (acts : List (Act In U)) (s : St σ In U Out)
    (h : run B (init pool obj next) acts = some s) :
    s.next ∉ s.pool ∧ ∀ t, (s.pc t).holds ≠ some s.next := by
  have i := inv_reach B he pool obj next h0 acts s h
  exact ⟨fun hm => Nat.lt_irrefl _ (i.poolLt _ hm), fun t ht => Nat.lt_irrefl _ (i.heldLt t _ ht)⟩

/-- C10. For EVERY interleaving `acts` of any number of threads over one shared pool — `Get`
hitting or missing, the pool dropping objects, threads parking — from ANY initial pool whose objects are in
ARBITRARY (stale) states: every thread that has finished its call `Reset(i); use u₁; …; use uₖ` has returned
`seqResult i [u₁, …, uₖ]`, the result of the same call run ALONE on a fresh object. The result does not depend on the
other threads, on the stale states in the pool, or on the schedule. -/
theorem pool_exclusive (B : Beh σ In U Out) (he : B.ResetErases) (pool : List Nat) (obj : Nat → σ) (next : Nat)
    (h0 : InitOk pool next) (acts : List (Act In U)) (s : St σ In U Out)
    (h : run B (init pool obj next) acts = some s) (t : Nat) (i : In) (us : List U) (out : Out)
    (hf : s.pc t = .fin i us out) : out = B.seqResult i us :=
  (inv_reach B he pool obj next h0 acts s h).finOut t i us out hf

/-! ### the serial schedule is one of the interleavings

One call after the other, all on ONE recycled object: the first call's `Get` misses (`New` hands out `next`), every
later call's `Get` hits that same object, which the previous call has put back. -/

/-- the actions of one uninterrupted call -/
def callActs (t : Nat) (i : In) (us : List U) (hit : Option Nat) (put : Bool) : List (Act In U) :=
  .get t i hit :: .reset t :: (us.map (Act.use t) ++ [.finish t put])

theorem run_uses (B : Beh σ In U Out) (t o : Nat) (i : In) (us : List U) : ∀ (s : St σ In U Out) (us0 : List U),
    s.pc t = .run o i us0 →
    ∃ s', run B s (us.map (Act.use t)) = some s' ∧ s'.pc t = .run o i (us0 ++ us) ∧ ∀ t', t' ≠ t → s'.pc t' = s.pc t' := by
  induction us with
  | nil => intro s us0 hp; exact ⟨s, by simp [run], by simpa using hp, fun _ _ => rfl⟩
  | cons u us ih =>
    intro s us0 hp
    obtain ⟨s', h1, h2, h5⟩ := ih
      { s with obj := upd s.obj o (B.useStep (s.obj o) u), pc := upd s.pc t (.run o i (us0 ++ [u])) } (us0 ++ [u])
      (by simp [upd])
    refine ⟨s', ?_, by simpa using h2, ?_⟩
    · simp only [List.map_cons, run, step, hp]; exact h1
    · intro t' ht'; rw [h5 t' ht']; simp [upd, ht']

theorem get_spec (B : Beh σ In U Out) (s : St σ In U Out) (t : Nat) (i : In) (hit : Option Nat)
    (hp : s.pc t = .idle) (hhit : ∀ o, hit = some o → o ∈ s.pool) :
    ∃ s1, step B s (.get t i hit) = some s1 ∧ s1.pc t = .got (hit.getD s.next) i ∧ ∀ t', t' ≠ t → s1.pc t' = s.pc t' := by
  cases hit with
  | none =>
    exact ⟨{ s with obj := upd s.obj s.next B.new, next := s.next + 1, pc := upd s.pc t (.got s.next i) },
      by simp [step, hp], by simp [upd], fun t' ht' => by simp [upd, ht']⟩
  | some o =>
    exact ⟨{ s with pool := s.pool.erase o, pc := upd s.pc t (.got o i) },
      by simp [step, hp, hhit o rfl], by simp [upd], fun t' ht' => by simp [upd, ht']⟩

theorem run_call (B : Beh σ In U Out) (s : St σ In U Out) (t : Nat) (i : In) (us : List U) (hit : Option Nat)
    (hp : s.pc t = .idle) (hhit : ∀ o, hit = some o → o ∈ s.pool) :
    ∃ s' out, run B s (callActs t i us hit true) = some s' ∧ s'.pc t = .fin i us out ∧
      (hit.getD s.next) ∈ s'.pool ∧ ∀ t', t' ≠ t → s'.pc t' = s.pc t' := by
  obtain ⟨s1, e1, p1, o1⟩ := get_spec B s t i hit hp hhit
  generalize hit.getD s.next = o at p1 ⊢
  have e2 : step B s1 (.reset t) = some { s1 with obj := upd s1.obj o (B.reset (s1.obj o) i), pc := upd s1.pc t (.run o i []) } := by
    simp [step, p1]
  obtain ⟨s3, h1, h2, h5⟩ := run_uses B t o i us
    { s1 with obj := upd s1.obj o (B.reset (s1.obj o) i), pc := upd s1.pc t (.run o i []) } [] (by simp [upd])
  simp only [List.nil_append] at h2
  refine ⟨{ s3 with pool := o :: s3.pool, pc := upd s3.pc t (.fin i us (B.result (s3.obj o))) }, B.result (s3.obj o), ?_,
    by simp [upd], by simp, fun t' ht' => ?_⟩
  · simp only [callActs, run, e1, e2, Option.bind_some]
    rw [(isRun B).append]
    exact ⟨s3, h1, by simp [run, step, h2]⟩
  · simp only [upd, ht', ↓reduceIte]
    rw [h5 t' ht', ← o1 t' ht']; simp [upd, ht']

/-- a call: thread, input, uses -/
abbrev Call (In U : Type) := Nat × In × List U

/-- the calls `cs` one after the other, every one hitting the pooled object `o` -/
def reuseActs (o : Nat) (cs : List (Call In U)) : List (Act In U) :=
  cs.flatMap (fun c => callActs c.1 c.2.1 c.2.2 (some o) true)

/-- the serial schedule: the first call misses (`New` hands out the object `next`), the later ones reuse it -/
def serialActs (next : Nat) : List (Call In U) → List (Act In U)
  | [] => []
  | c :: cs => callActs c.1 c.2.1 c.2.2 none true ++ reuseActs next cs

/-- The call `c` with any `hit`, then the calls `cs`, each hitting the object `c` has put back: both schedules below.  The last
conjunct (nobody else moves) is what the induction carries: it keeps the later callers idle and the earlier ones finished. -/
theorem run_calls (B : Beh σ In U Out) (cs : List (Call In U)) : ∀ (c : Call In U) (s : St σ In U Out) (hit : Option Nat),
    (∀ o, hit = some o → o ∈ s.pool) → ((c :: cs).map (·.1)).Nodup → (∀ c' ∈ c :: cs, s.pc c'.1 = .idle) →
    ∃ s', run B s (callActs c.1 c.2.1 c.2.2 hit true ++ reuseActs (hit.getD s.next) cs) = some s' ∧
      (∀ c' ∈ c :: cs, ∃ out, s'.pc c'.1 = .fin c'.2.1 c'.2.2 out) ∧ ∀ t', t' ∉ (c :: cs).map (·.1) → s'.pc t' = s.pc t' := by
  induction cs with
  | nil =>
    intro c s hit hhit _ hidle
    obtain ⟨s1, out, h1, h2, _, h4⟩ := run_call B s c.1 c.2.1 c.2.2 hit (hidle c (by simp)) hhit
    exact ⟨s1, by simpa [reuseActs] using h1, by simpa using ⟨out, h2⟩, fun t' ht' => h4 t' (by simpa using ht')⟩
  | cons c2 cs ih =>
    intro c s hit hhit hnd hidle
    rw [List.map_cons, List.nodup_cons] at hnd
    obtain ⟨s1, out, h1, h2, h3, h4⟩ := run_call B s c.1 c.2.1 c.2.2 hit (hidle c (by simp)) hhit
    have hne : ∀ c' ∈ c2 :: cs, c'.1 ≠ c.1 := fun c' hc' he => hnd.1 (he ▸ List.mem_map_of_mem (f := (·.1)) hc')
    obtain ⟨s2, g1, g2, g3⟩ := ih c2 s1 (some (hit.getD s.next)) (fun _ ho => Option.some.inj ho ▸ h3) hnd.2
      fun c' hc' => (h4 _ (hne c' hc')).trans (hidle c' (List.mem_cons_of_mem _ hc'))
    refine ⟨s2, ((isRun B).append _ _ _ _).mpr ⟨s1, h1, g1⟩, ?_, fun t' ht' => ?_⟩
    · intro c' hc'
      rcases List.mem_cons.mp hc' with rfl | hc'
      · exact ⟨out, (g3 _ hnd.1).trans h2⟩
      · exact g2 c' hc'
    · rw [List.map_cons, List.mem_cons, not_or] at ht'
      rw [g3 t' ht'.2, h4 t' ht'.1]

/-- For ANY list of calls by distinct threads the serial schedule — one call after the other, all on
one recycled object — is a run of the model, every call finishes, and its result is `seqResult`: the sequential
results ARE the `seqResult`s, so by `pool_exclusive` every interleaving returns what the sequential execution
returns. (Also: the hypotheses of `pool_exclusive` are satisfiable for every list of calls.) -/
theorem serial_run (B : Beh σ In U Out) (he : B.ResetErases) (pool : List Nat) (obj : Nat → σ) (next : Nat)
    (h0 : InitOk pool next) (cs : List (Call In U)) (hnd : (cs.map (·.1)).Nodup) :
    ∃ s, run B (init pool obj next) (serialActs next cs) = some s ∧
      ∀ c ∈ cs, s.pc c.1 = .fin c.2.1 c.2.2 (B.seqResult c.2.1 c.2.2) := by
  obtain ⟨s, hr, hf⟩ : ∃ s, run B (init pool obj next) (serialActs next cs) = some s ∧
      ∀ c ∈ cs, ∃ out, s.pc c.1 = .fin c.2.1 c.2.2 out := by
    cases cs with
    | nil => exact ⟨_, rfl, by simp⟩
    | cons c cs =>
      obtain ⟨s, hr, hf, _⟩ := run_calls B cs c (init pool obj next) none (by simp) hnd fun _ _ => rfl
      exact ⟨s, hr, hf⟩
  refine ⟨s, hr, fun c hc => ?_⟩
  obtain ⟨out, ho⟩ := hf c hc
  rw [ho, pool_exclusive B he pool obj next h0 _ s hr c.1 c.2.1 c.2.2 out ho]

/-- a toy object for the concrete runs: a tagged accumulator. `Reset(i)` stores the tag `i` and clears the sum,
`use u` adds `u`, the result is `100 · tag + sum`. So `seqResult i us = 100 · i + Σ us`. -/
def accB : Beh (Nat × Nat) Nat Nat Nat :=
  { new := (0, 0), reset := fun _ i => (i, 0), useStep := fun s u => (s.1, s.2 + u), result := fun s => 100 * s.1 + s.2 }

theorem accB_erases : accB.ResetErases := fun _ _ _ => rfl

/-- a pool of two objects left in stale states by earlier calls; object identities 0 and 1 are taken -/
def demoInit : St (Nat × Nat) Nat Nat Nat := init [0, 1] (fun o => if o = 0 then (9, 40) else (8, 30)) 2

theorem demoInit_ok : InitOk [0, 1] 2 := ⟨by decide, by decide⟩

/-- three threads at once (plus a fourth that comes later) over the pool [0, 1]: thread 0 hits object 1, thread 1
misses (`New` makes object 2) although the pool is not empty, thread 2 hits object 0; their resets and uses are
interleaved; thread 1 parks its object and resumes; the pool drops nothing it holds; thread 0 puts its object back,
thread 2 DROPS its object; thread 3 then recycles the object thread 0 has put back; the collector drops object 2. -/
def demoActs : List (Act Nat Nat) :=
  [.get 0 1 (some 1), .get 1 2 none, .reset 0, .get 2 3 (some 0), .use 0 5, .reset 2, .reset 1, .use 2 7, .park 1,
   .use 0 6, .use 2 1, .finish 0 true, .resume 1, .get 3 4 (some 1), .use 1 9, .finish 2 false, .reset 3,
   .finish 1 true, .use 3 2, .gc 2, .finish 3 true]

/-- the run exists; every thread has returned `100 · input + Σ uses` — nothing of the stale (9, 40) / (8, 30), nothing
of the others; the pool ends with the one object that was put back and not collected -/
example : (run accB demoInit demoActs).map (fun s => (s.pc 0, s.pc 1, s.pool)) =
    some (.fin 1 [5, 6] 111, .fin 2 [9] 209, [1]) := by decide
example : (run accB demoInit demoActs).map (fun s => (s.pc 2, s.pc 3, s.next)) =
    some (.fin 3 [7, 1] 308, .fin 4 [2] 402, 3) := by decide
example : accB.seqResult 1 [5, 6] = 111 ∧ accB.seqResult 2 [9] = 209 ∧ accB.seqResult 3 [7, 1] = 308 ∧
    accB.seqResult 4 [2] = 402 := by decide
/-- the hypotheses of `pool_exclusive` are jointly satisfied by this run (and its conclusion is the four values above) -/
example (s : St (Nat × Nat) Nat Nat Nat) (h : run accB demoInit demoActs = some s) (t i : Nat) (us : List Nat) (out : Nat)
    (hf : s.pc t = .fin i us out) : out = accB.seqResult i us :=
  pool_exclusive accB accB_erases _ _ _ demoInit_ok demoActs s h t i us out hf
/-- in the middle of it three threads hold three different objects and the pool is empty -/
example : (run accB demoInit (demoActs.take 9)).map (fun s => ((s.pc 0).holds, (s.pc 1).holds, (s.pc 2).holds)) =
    some (some 1, some 2, some 0) ∧
    (run accB demoInit (demoActs.take 9)).map (fun s => s.pool) = some [] := by decide
/-- steps that are NOT enabled: hitting an object that is not in the pool; using without holding -/
example : (run accB demoInit [.get 0 1 (some 1), .get 1 2 (some 1)]).isNone = true ∧
    (run accB demoInit [.use 0 5]).isNone = true ∧ (run accB demoInit [.get 0 1 (some 1), .use 0 5]).isNone = true := by
  decide
/-- the serial schedule of three calls, as `serial_run` builds it -/
example : (run accB demoInit (serialActs 2 [(0, 1, [5, 6]), (1, 2, [9]), (2, 3, [7, 1])])).map
    (fun s => (s.pc 0, s.pc 1, s.pc 2)) = some (.fin 1 [5, 6] 111, .fin 2 [9] 209, .fin 3 [7, 1] 308) := by decide

/-! ### negative results: the bugs the model can express, and for which the theorem is FALSE

Each variant changes ONE clause of `step` (or drops the hypothesis on `reset`); each theorem is a decided literal run. -/

def runWith (stp : St σ In U Out → Act In U → Option (St σ In U Out)) :
    St σ In U Out → List (Act In U) → Option (St σ In U Out)
  | s, [] => some s
  | s, a :: as => (stp s a).bind (fun s' => runWith stp s' as)

theorem runWith_step (B : Beh σ In U Out) (s : St σ In U Out) (acts : List (Act In U)) :
    runWith (step B) s acts = run B s acts :=
  LTS.IsRun.unique (step := step B) ⟨fun _ => rfl, fun _ _ _ => rfl⟩ (isRun B) acts s

/-- (a) DOUBLE PUT: `finish` puts the object back twice (`defer z.Close()` after an explicit `z.Close()`, both
ending in `pool.Put(z)`) -/
def stepDoublePut (B : Beh σ In U Out) (s : St σ In U Out) : Act In U → Option (St σ In U Out)
  | .finish t _ =>
      match s.pc t with
      | .run o i us => some { s with pool := o :: o :: s.pool, pc := upd s.pc t (.fin i us (B.result (s.obj o))) }
      | _ => none
  | a => step B s a

/-- (b) USE AFTER PUT: the object is put back too early — right after `Reset`, before the uses — and the thread keeps
working on it; `finish` does not put again -/
def stepEarlyPut (B : Beh σ In U Out) (s : St σ In U Out) : Act In U → Option (St σ In U Out)
  | .reset t =>
      match s.pc t with
      | .got o i => some { s with pool := o :: s.pool, obj := upd s.obj o (B.reset (s.obj o) i), pc := upd s.pc t (.run o i []) }
      | _ => none
  | .finish t _ =>
      match s.pc t with
      | .run o i us => some { s with pc := upd s.pc t (.fin i us (B.result (s.obj o))) }
      | _ => none
  | a => step B s a

/-- (c) STALE RESET: `Reset` forgets to clear one field (the sum) -/
def leakyB : Beh (Nat × Nat) Nat Nat Nat := { accB with reset := fun s i => (i, s.2) }

/-- (d) SHARED NEW: the `New` closure captured ONE object (`w := &writer{…}; pool.New = func() any { return w }`)
instead of making one per call: every miss hands out object 0 -/
def stepSharedNew (B : Beh σ In U Out) (s : St σ In U Out) : Act In U → Option (St σ In U Out)
  | .get t i none =>
      match s.pc t with
      | .idle => some { s with pc := upd s.pc t (.got 0 i) }
      | _ => none
  | a => step B s a

def emptyInit : St (Nat × Nat) Nat Nat Nat := init [] (fun _ => (0, 0)) 0

/-- (a) after thread 0's double put the pool holds object 0 TWICE; threads 1 and 2 both get it and hold it at once
(`no_shared_object` fails); thread 2's `Reset(2)` and `use 1` land in the object thread 1 is working on, and thread 1
returns 201 for the call `Reset(1); use 7` whose result alone is 107 (`pool_exclusive` fails) -/
theorem double_put_breaks :
    (runWith (stepDoublePut accB) emptyInit
      [.get 0 5 none, .reset 0, .finish 0 true, .get 1 1 (some 0), .get 2 2 (some 0)]).map
        (fun s => ((s.pc 1).holds, (s.pc 2).holds)) = some (some 0, some 0) ∧
    (runWith (stepDoublePut accB) emptyInit
      [.get 0 5 none, .reset 0, .finish 0 true, .get 1 1 (some 0), .get 2 2 (some 0),
       .reset 1, .use 1 7, .reset 2, .use 2 1, .finish 1 true]).map (fun s => s.pc 1) = some (.fin 1 [7] 201) ∧
    accB.seqResult 1 [7] = 107 := by decide

/-- the same action lists are not even runs of the real step relation: the second `Get` of object 0 is not enabled -/
theorem double_put_needs_the_bug :
    (run accB emptyInit [.get 0 5 none, .reset 0, .finish 0 true, .get 1 1 (some 0), .get 2 2 (some 0)]).isNone = true := by
  decide

/-- (b) thread 0's early put lets thread 1 get the object thread 0 is still using: both hold object 0; thread 0
returns 205 for the call `Reset(1); use 5`, alone 105 -/
theorem use_after_put_breaks :
    (runWith (stepEarlyPut accB) emptyInit [.get 0 1 none, .reset 0, .get 1 2 (some 0)]).map
        (fun s => ((s.pc 0).holds, (s.pc 1).holds)) = some (some 0, some 0) ∧
    (runWith (stepEarlyPut accB) emptyInit
      [.get 0 1 none, .reset 0, .get 1 2 (some 0), .reset 1, .use 0 5, .finish 0 true]).map (fun s => s.pc 0) =
        some (.fin 1 [5] 205) ∧
    accB.seqResult 1 [5] = 105 := by decide

/-- (c) with a `Reset` that keeps one field, the real step relation and ONE thread suffice: the call `Reset(1); use 5`
returns 145 on the recycled object 0 (stale sum 40), 135 on the recycled object 1 (stale sum 30) and 105 on a new
one — the result depends on the pool's stale content. `ResetErases` fails for this object, and only that. -/
theorem stale_reset_breaks :
    (run leakyB demoInit [.get 0 1 (some 0), .reset 0, .use 0 5, .finish 0 true]).map (fun s => s.pc 0) =
      some (.fin 1 [5] 145) ∧
    (run leakyB demoInit [.get 0 1 (some 1), .reset 0, .use 0 5, .finish 0 true]).map (fun s => s.pc 0) =
      some (.fin 1 [5] 135) ∧
    (run leakyB demoInit [.get 0 1 none, .reset 0, .use 0 5, .finish 0 true]).map (fun s => s.pc 0) =
      some (.fin 1 [5] 105) ∧
    leakyB.seqResult 1 [5] = 105 ∧ ¬ leakyB.ResetErases := by
  refine ⟨by decide, by decide, by decide, by decide, ?_⟩
  intro h
  have := h (0, 1) (0, 0) 0
  simp [leakyB, accB] at this

/-- (d) two misses hand out the same object: threads 0 and 1 hold object 0 at once, and thread 0 returns 203 for
`Reset(1); use 2`, alone 102 -/
theorem shared_new_breaks :
    (runWith (stepSharedNew accB) emptyInit [.get 0 1 none, .get 1 2 none]).map
        (fun s => ((s.pc 0).holds, (s.pc 1).holds)) = some (some 0, some 0) ∧
    (runWith (stepSharedNew accB) emptyInit
      [.get 0 1 none, .get 1 2 none, .reset 0, .use 0 2, .reset 1, .use 1 3, .finish 0 true]).map (fun s => s.pc 0) =
        some (.fin 1 [2] 203) ∧
    accB.seqResult 1 [2] = 102 := by decide

/-- with the real `New` the same schedule gives both threads their own object and the sequential results -/
theorem fresh_new_ok :
    (run accB emptyInit [.get 0 1 none, .get 1 2 none]).map (fun s => ((s.pc 0).holds, (s.pc 1).holds)) =
      some (some 0, some 1) ∧
    (run accB emptyInit
      [.get 0 1 none, .get 1 2 none, .reset 0, .use 0 2, .reset 1, .use 1 3, .finish 0 true]).map (fun s => s.pc 0) =
        some (.fin 1 [2] 102) := by decide

end OAP.Pool
