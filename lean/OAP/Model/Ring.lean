/-
Model of github.com/Allenxuxu/ringbuffer v0.0.11 (a dependency of /repo, used by the streaming
decoders and by the TCP connection) after its source, and its refinement to a byte queue:
under the representation invariant `WF`, every operation keeps `WF` and acts on `abs` as
take / drop / append. The virtual-read pointer `vr` is not modelled (unused by /repo).
-/
import OAP.Base
namespace OAP

structure Ring where
  buf : Bytes
  size : Nat
  r : Nat
  w : Nat
  isEmpty : Bool
deriving Repr

namespace Ring

structure WF (rb : Ring) : Prop where
  len : rb.buf.length = rb.size
  rlt : rb.size = 0 → rb.r = 0
  wlt : rb.size = 0 → rb.w = 0
  rlt' : 0 < rb.size → rb.r < rb.size
  wlt' : 0 < rb.size → rb.w < rb.size
  emp : rb.isEmpty = true → rb.r = rb.w

/-- the readable bytes, oldest first -/
def abs (rb : Ring) : Bytes :=
  if rb.isEmpty then [] else
  if rb.r < rb.w then (rb.buf.drop rb.r).take (rb.w - rb.r)
  else rb.buf.drop rb.r ++ rb.buf.take rb.w

/-- `Length()` -/
def length (rb : Ring) : Nat :=
  if rb.w = rb.r then (if rb.isEmpty then 0 else rb.size)
  else if rb.r < rb.w then rb.w - rb.r else rb.size - rb.r + rb.w

/-- capacity 0 occurs: `New(0)`, `NewWithData([])` -/
theorem WF.bounds {rb : Ring} (h : rb.WF) :
    rb.r < rb.size ∧ rb.w < rb.size ∨ rb.size = 0 ∧ rb.r = 0 ∧ rb.w = 0 := by
  have := h.rlt; have := h.wlt; have := h.rlt'; have := h.wlt'; omega

theorem WF.of_lt {buf : Bytes} {size r w : Nat} {e : Bool} (hl : buf.length = size) (hr : r < size)
    (hw : w < size) (he : e = true → r = w) : WF ⟨buf, size, r, w, e⟩ :=
  ⟨hl, by simp; omega, by simp; omega, fun _ => hr, fun _ => hw, he⟩

theorem WF.cases {rb : Ring} (h : rb.WF) :
    rb.isEmpty = true ∧ rb.w = rb.r ∧ rb.abs = [] ∧ rb.length = 0 ∨
    rb.isEmpty = false ∧ rb.r < rb.w ∧ rb.abs = (rb.buf.drop rb.r).take (rb.w - rb.r) ∧
      rb.length = rb.w - rb.r ∨
    rb.isEmpty = false ∧ rb.w ≤ rb.r ∧ rb.abs = rb.buf.drop rb.r ++ rb.buf.take rb.w ∧
      rb.length = rb.size - rb.r + rb.w := by
  have := h.bounds
  unfold abs length
  cases he : rb.isEmpty
  · by_cases hlt : rb.r < rb.w <;> simp [hlt] <;> omega
  · simp [h.emp he]

theorem length_abs (rb : Ring) (h : rb.WF) : rb.length = rb.abs.length := by
  have := h.bounds; have := h.len
  rcases h.cases with ⟨_, _, ha, hl⟩ | ⟨_, _, ha, hl⟩ | ⟨_, _, ha, hl⟩ <;>
    simp [ha, hl, List.length_take, List.length_drop] <;> omega

/-- `Peek(n)`: two slices (first, end) -/
def peek (rb : Ring) (n : Nat) : Bytes × Bytes :=
  if rb.isEmpty || n == 0 then ([], []) else
  if rb.r < rb.w then
    let n := min n (rb.w - rb.r)
    ((rb.buf.drop rb.r).take n, [])
  else
    let n := min n (rb.size - rb.r + rb.w)
    if rb.r + n ≤ rb.size then ((rb.buf.drop rb.r).take n, [])
    else (rb.buf.drop rb.r, rb.buf.take (n + rb.r - rb.size))   -- Go: len-size+r on ints; Nat needs the reordering

theorem peek_abs (rb : Ring) (h : rb.WF) (n : Nat) :
    (rb.peek n).1 ++ (rb.peek n).2 = rb.abs.take n := by
  have := h.bounds; have hl := h.len
  by_cases hn : n = 0
  · simp [peek, hn]
  rcases h.cases with ⟨he, _, ha, _⟩ | ⟨he, hlt, ha, _⟩ | ⟨he, hle, ha, hlen⟩
  · simp [peek, he, ha]
  · simp [peek, he, hn, hlt, ha, List.take_take]
  · -- `Peek` clips `n` to the number of queued bytes first; the second slice is used iff that crosses the end
    have hx : (rb.buf.drop rb.r).length = rb.size - rb.r := by simp [hl]
    rw [List.take_eq_take_min, ← length_abs rb h, hlen, ha]
    simp only [peek, he, hn, show ¬ rb.r < rb.w by omega, Bool.false_or, beq_iff_eq, ↓reduceIte]
    split <;> dsimp only
    · rw [List.take_append_of_le_length (by omega), List.append_nil]
    · rw [List.take_append, hx, List.take_take, List.take_of_length_le (l := rb.buf.drop rb.r) (by omega)]
      congr 2; omega

/-- `RetrieveAll()` -/
def retrieveAll (rb : Ring) : Ring := { rb with r := 0, w := 0, isEmpty := true }

/-- `Retrieve(n)` -/
def retrieve (rb : Ring) (n : Nat) : Ring :=
  if rb.isEmpty || n == 0 then rb
  else if n < rb.length then
    let r' := (rb.r + n) % rb.size
    { rb with r := r', isEmpty := rb.isEmpty || (rb.w == r') }
  else rb.retrieveAll

theorem retrieveAll_wf (rb : Ring) (h : rb.WF) : rb.retrieveAll.WF := by
  constructor <;> simp [retrieveAll] <;> first | exact h.len | omega

theorem retrieveAll_abs (rb : Ring) : rb.retrieveAll.abs = [] := by simp [retrieveAll, abs]

theorem mod_wrap {a b : Nat} (h1 : b ≤ a) (h2 : a < b + b) : a % b = a - b := by
  rw [Nat.mod_eq_sub_mod h1, Nat.mod_eq_of_lt (by omega)]

/-- the pointer move that `Retrieve` and `Read` share -/
theorem advance_spec (rb : Ring) (h : rb.WF) (n : Nat) (hn : 0 < n) (hlt : n < rb.length) :
    rb.w ≠ (rb.r + n) % rb.size ∧
    ({ rb with r := (rb.r + n) % rb.size, isEmpty := false } : Ring).WF ∧
    ({ rb with r := (rb.r + n) % rb.size, isEmpty := false } : Ring).abs = rb.abs.drop n := by
  have hb := h.bounds; have hl := h.len
  rcases h.cases with ⟨_, _, _, e⟩ | ⟨he, hrw, ha, e⟩ | ⟨he, hwr, ha, e⟩ <;> rw [e] at hlt
  · omega
  · -- `buf[r:w]`
    rw [Nat.mod_eq_of_lt (by omega), ha, List.drop_take, List.drop_drop]
    refine ⟨by omega, .of_lt hl (by omega) (by omega) (by simp), ?_⟩
    simp [abs, show rb.r + n < rb.w by omega, Nat.sub_sub]
  · -- `buf[r:] ++ buf[:w]`: the new `r` stays in the first part, or wraps into the second
    rcases Nat.lt_or_ge (rb.r + n) rb.size with hs | hs
    · rw [Nat.mod_eq_of_lt hs, ha, List.drop_append_of_le_length (by simp; omega), List.drop_drop]
      refine ⟨by omega, .of_lt hl hs (by omega) (by simp), ?_⟩
      simp [abs, show ¬ rb.r + n < rb.w by omega]
    · rw [mod_wrap hs (by omega), ha, List.drop_append, List.drop_of_length_le (by simp; omega),
        List.nil_append, List.length_drop, hl, show n - (rb.size - rb.r) = rb.r + n - rb.size by omega,
        List.drop_take]
      refine ⟨by omega, .of_lt hl (by omega) (by omega) (by simp), ?_⟩
      simp [abs, show rb.r + n - rb.size < rb.w by omega]

theorem retrieve_spec (rb : Ring) (h : rb.WF) (n : Nat) :
    (rb.retrieve n).WF ∧ (rb.retrieve n).abs = rb.abs.drop n := by
  unfold retrieve
  split
  · next hc =>
    simp only [Bool.or_eq_true, beq_iff_eq] at hc
    exact ⟨h, by rcases hc with he | rfl <;> simp [abs, *]⟩
  · next hc =>
    simp only [Bool.or_eq_true, beq_iff_eq, not_or, Bool.not_eq_true] at hc
    split
    · next hlt =>
      obtain ⟨hne, hw⟩ := advance_spec rb h n (by omega) hlt
      simpa [hc.1, beq_false_of_ne hne] using hw
    · exact ⟨retrieveAll_wf rb h, by
        rw [retrieveAll_abs, List.drop_of_length_le (by rw [← length_abs rb h]; omega)]⟩

/-- `free()` -/
def free (rb : Ring) : Nat :=
  if rb.w = rb.r then (if rb.isEmpty then rb.size else 0)
  else if rb.w < rb.r then rb.r - rb.w else rb.size - rb.w + rb.r

theorem free_length (rb : Ring) (h : rb.WF) : rb.free + rb.length = rb.size := by
  have := h.bounds
  unfold free length
  split
  · split <;> omega
  · split <;> split <;> omega

/-- `makeSpace(k)`: grow by k, linearise the content at offset 0 -/
def makeSpace (rb : Ring) (k : Nat) : Ring :=
  let old := rb.abs
  { buf := old ++ List.replicate (rb.size + k - old.length) 0,
    size := rb.size + k, r := 0, w := old.length, isEmpty := rb.isEmpty || true }
  -- Go: Read(newBuf) empties the ring (isEmpty = true) before r/w are reset; Write sets it false again (`|| true`: written as the
  -- effect of that `Read` on the flag, whatever it was)

/-- `copy(buf[off:], p)` for a `p` that fits -/
def setRange (buf : Bytes) (off : Nat) (p : Bytes) : Bytes :=
  buf.take off ++ p ++ buf.drop (off + p.length)

/-- the part of `Write` after the space check: uses only buf, size, r, w -/
def writeFit (rb : Ring) (p : Bytes) : Ring :=
  let n := p.length
  let (buf, w) :=
    if rb.r ≤ rb.w then
      if n ≤ rb.size - rb.w then (setRange rb.buf rb.w p, rb.w + n)
      else
        let k := rb.size - rb.w
        (setRange (setRange rb.buf rb.w (p.take k)) 0 (p.drop k), rb.w + n - rb.size)
    else (setRange rb.buf rb.w p, rb.w + n)
  { rb with buf := buf, w := if w = rb.size then 0 else w, isEmpty := false }

/-- `Write(p)` -/
def write (rb : Ring) (p : Bytes) : Ring :=
  if p.length = 0 then rb else
  let rb := if rb.free < p.length then rb.makeSpace (p.length - rb.free) else rb
  rb.writeFit p

/-- geometry part of the invariant (the emptiness flag may be stale inside `Write`) -/
structure Geo (rb : Ring) : Prop where
  len : rb.buf.length = rb.size
  pos : 0 < rb.size
  rlt : rb.r < rb.size
  wlt : rb.w < rb.size

/-- `c` is the readable content of `rb`, the flag left aside -/
def Content (rb : Ring) (c : Bytes) : Prop :=
  (rb.r < rb.w ∧ c = (rb.buf.drop rb.r).take (rb.w - rb.r)) ∨
  (rb.w < rb.r ∧ c = rb.buf.drop rb.r ++ rb.buf.take rb.w) ∨
  (rb.r = rb.w ∧ (c = [] ∨ c = rb.buf.drop rb.r ++ rb.buf.take rb.w))

theorem WF.geo {rb : Ring} (h : rb.WF) (hz : 0 < rb.size) : rb.Geo := ⟨h.len, hz, h.rlt' hz, h.wlt' hz⟩

theorem Content.cases {rb : Ring} {c : Bytes} (hc : Content rb c) :
    rb.r ≤ rb.w ∧ c = (rb.buf.take rb.w).drop rb.r ∨
    rb.w ≤ rb.r ∧ c = rb.buf.drop rb.r ++ rb.buf.take rb.w := by
  rcases hc with ⟨h, rfl⟩ | ⟨h, rfl⟩ | ⟨h, rfl | rfl⟩
  · exact .inl ⟨by omega, List.drop_take.symm⟩
  · exact .inr ⟨by omega, rfl⟩
  · exact .inl ⟨by omega, (List.drop_of_length_le (by simp; omega)).symm⟩
  · exact .inr ⟨by omega, rfl⟩

theorem content_length (rb : Ring) (c : Bytes) (g : rb.Geo) (hc : Content rb c) :
    c.length ≤ rb.size := by
  have := g.len; have := g.rlt; have := g.wlt
  rcases hc.cases with ⟨_, rfl⟩ | ⟨_, rfl⟩ <;> simp [List.length_take, List.length_drop] <;> omega

theorem content_of_wf (rb : Ring) (h : rb.WF) : Content rb rb.abs := by
  rcases h.cases with ⟨_, e, ha, _⟩ | ⟨_, hlt, ha, _⟩ | ⟨_, hle, ha, _⟩ <;> rw [ha]
  · exact .inr (.inr ⟨e.symm, .inl rfl⟩)
  · exact .inl ⟨hlt, rfl⟩
  · rcases Nat.lt_or_eq_of_le hle with h | h
    · exact .inr (.inl ⟨h, rfl⟩)
    · exact .inr (.inr ⟨h.symm, .inr rfl⟩)

theorem setRange_length (buf : Bytes) (off : Nat) (p : Bytes) (h : off + p.length ≤ buf.length) :
    (setRange buf off p).length = buf.length := by
  simp [setRange, List.length_take, List.length_drop]; omega

theorem setRange_drop_le (buf : Bytes) (off : Nat) (p : Bytes) (k : Nat)
    (hk : k ≤ off) (h : off + p.length ≤ buf.length) :
    (setRange buf off p).drop k = (buf.take off).drop k ++ (p ++ buf.drop (off + p.length)) := by
  unfold setRange
  rw [List.append_assoc, List.drop_append_of_le_length (by rw [List.length_take_of_le (by omega)]; exact hk)]

theorem setRange_drop_ge (buf : Bytes) (off : Nat) (p : Bytes) (k : Nat)
    (hk : off + p.length ≤ k) (h : off + p.length ≤ buf.length) :
    (setRange buf off p).drop k = buf.drop k := by
  unfold setRange
  have h1 : (buf.take off ++ p).length = off + p.length := by
    rw [List.length_append, List.length_take_of_le (by omega)]
  rw [List.drop_append, List.drop_of_length_le (by omega), List.nil_append, h1, List.drop_drop]
  congr 1; omega

theorem setRange_take_end (buf : Bytes) (off : Nat) (p : Bytes) (h : off + p.length ≤ buf.length) :
    (setRange buf off p).take (off + p.length) = buf.take off ++ p :=
  List.take_left' (by rw [List.length_append, List.length_take_of_le (by omega)])

theorem abs_nonempty (rb : Ring) (h : rb.isEmpty = false) :
    rb.abs = if rb.r < rb.w then (rb.buf.drop rb.r).take (rb.w - rb.r)
             else rb.buf.drop rb.r ++ rb.buf.take rb.w := by
  simp [abs, h]

theorem writeFit_linear (rb : Ring) (p : Bytes)
    (hlin : (rb.r ≤ rb.w ∧ p.length ≤ rb.size - rb.w) ∨ rb.w < rb.r) :
    rb.writeFit p = { rb with buf := setRange rb.buf rb.w p,
                              w := if rb.w + p.length = rb.size then 0 else rb.w + p.length,
                              isEmpty := false } := by
  unfold writeFit
  rcases hlin with ⟨h1, h2⟩ | h1
  · simp [h1, h2]
  · have : ¬ rb.r ≤ rb.w := by omega
    simp [this]

theorem writeFit_spec_linear (rb : Ring) (p c : Bytes) (g : rb.Geo) (hc : Content rb c)
    (hn : 0 < p.length) (hfit : c.length + p.length ≤ rb.size)
    (hlin : (rb.r ≤ rb.w ∧ p.length ≤ rb.size - rb.w) ∨ rb.w < rb.r) :
    (rb.writeFit p).WF ∧ (rb.writeFit p).abs = c ++ p := by
  rw [writeFit_linear rb p hlin, abs_nonempty _ rfl]
  obtain ⟨hl, hp, hr, hw⟩ := g
  rcases hc.cases with ⟨hrw, rfl⟩ | ⟨hwr, rfl⟩
  · -- content `buf[r:w]`: `p` goes behind it, up to the end of the buffer at most
    have hb : rb.w + p.length ≤ rb.buf.length := by omega
    refine ⟨.of_lt (by rw [setRange_length _ _ _ hb, hl]) hr (by split <;> omega) (by simp), ?_⟩
    dsimp only
    rw [setRange_drop_le _ _ _ _ hrw hb, ← List.append_assoc]
    split
    · next e =>
      rw [if_neg (by omega), List.take_zero, List.append_nil, e,
        List.drop_of_length_le (l := rb.buf) (by omega), List.append_nil]
    · rw [if_pos (by omega), List.take_left' (by simp; omega)]
  · -- content across the end: `p` goes between `w` and `r`
    have hle : rb.w + p.length ≤ rb.r := by
      simp [List.length_take, List.length_drop] at hfit; omega
    have hb : rb.w + p.length ≤ rb.buf.length := by omega
    refine ⟨.of_lt (by rw [setRange_length _ _ _ hb, hl]) hr (by split <;> omega) (by simp), ?_⟩
    dsimp only
    rw [if_neg (show ¬ rb.w + p.length = rb.size by omega), if_neg (by omega),
      setRange_drop_ge _ _ _ _ hle hb, setRange_take_end _ _ _ hb, List.append_assoc]

/-- the split copy of `Write` is two copies that do not wrap -/
theorem writeFit_wrap_eq (rb : Ring) (p : Bytes) (g : rb.Geo) (hrw : rb.r ≤ rb.w) (hr0 : 0 < rb.r)
    (hbig : rb.size - rb.w < p.length) :
    rb.writeFit p = (rb.writeFit (p.take (rb.size - rb.w))).writeFit (p.drop (rb.size - rb.w)) := by
  have hw := g.wlt
  have hk : (p.take (rb.size - rb.w)).length = rb.size - rb.w := List.length_take_of_le (by omega)
  rw [writeFit_linear rb (p.take _) (Or.inl ⟨hrw, by omega⟩), hk,
    writeFit_linear _ (p.drop _) (Or.inr (by simp only; rw [if_pos (by omega)]; exact hr0))]
  simp only [show rb.w + (rb.size - rb.w) = rb.size by omega, ↓reduceIte, List.length_drop, Nat.zero_add]
  unfold writeFit
  simp only [hrw, ↓reduceIte, show ¬ p.length ≤ rb.size - rb.w by omega,
    show rb.w + p.length - rb.size = p.length - (rb.size - rb.w) by omega]

theorem writeFit_spec_wrap (rb : Ring) (p c : Bytes) (g : rb.Geo) (hc : Content rb c)
    (hfit : c.length + p.length ≤ rb.size)
    (hrw : rb.r ≤ rb.w) (hbig : rb.size - rb.w < p.length) :
    (rb.writeFit p).WF ∧ (rb.writeFit p).abs = c ++ p := by
  have hl := g.len; have hw := g.wlt
  have hcl : c.length = rb.w - rb.r := by
    rcases hc.cases with ⟨_, rfl⟩ | ⟨_, rfl⟩ <;> simp [List.length_take, List.length_drop] at hfit ⊢ <;> omega
  have hk : (p.take (rb.size - rb.w)).length = rb.size - rb.w := List.length_take_of_le (by omega)
  have e1 := writeFit_linear rb (p.take (rb.size - rb.w)) (.inl ⟨hrw, by omega⟩)
  rw [hk, if_pos (by omega)] at e1
  obtain ⟨wf1, a1⟩ := writeFit_spec_linear rb (p.take (rb.size - rb.w)) c g hc (by omega) (by omega)
    (.inl ⟨hrw, by omega⟩)
  have := writeFit_spec_linear _ (p.drop (rb.size - rb.w)) _ (wf1.geo (by rw [e1]; exact g.pos))
    (content_of_wf _ wf1) (by rw [List.length_drop]; omega)
    (by rw [a1, List.length_append, hk, List.length_drop, e1]; simp only; omega)
    (.inr (by rw [e1]; simp only; omega))
  rwa [a1, List.append_assoc, List.take_append_drop, ← writeFit_wrap_eq rb p g hrw (by omega) hbig] at this

theorem writeFit_spec (rb : Ring) (p c : Bytes) (g : rb.Geo) (hc : Content rb c)
    (hn : 0 < p.length) (hfit : c.length + p.length ≤ rb.size) :
    (rb.writeFit p).WF ∧ (rb.writeFit p).abs = c ++ p := by
  by_cases hrw : rb.r ≤ rb.w
  · by_cases hs : p.length ≤ rb.size - rb.w
    · exact writeFit_spec_linear rb p c g hc hn hfit (Or.inl ⟨hrw, hs⟩)
    · exact writeFit_spec_wrap rb p c g hc hfit hrw (by omega)
  · exact writeFit_spec_linear rb p c g hc hn hfit (Or.inr (by omega))

theorem write_spec (rb : Ring) (h : rb.WF) (p : Bytes) :
    (rb.write p).WF ∧ (rb.write p).abs = rb.abs ++ p := by
  unfold write
  have hfl := free_length rb h
  have hla := length_abs rb h
  split
  · next hp => simp [List.eq_nil_of_length_eq_zero hp, h]
  · dsimp only
    split
    · -- grow by exactly the deficit, content linearised at 0
      have hsz : rb.size + (p.length - rb.free) - rb.abs.length = p.length := by omega
      refine writeFit_spec _ p rb.abs ?_ ?_ (by omega) (by simp [makeSpace]; omega)
      · constructor <;> simp [makeSpace, hsz] <;> omega
      · by_cases h0 : rb.abs = []
        · exact .inr (.inr ⟨by simp [makeSpace, h0], .inl h0⟩)
        · exact .inl ⟨by simpa [makeSpace, List.length_pos_iff] using h0, by simp [makeSpace]⟩
    · exact writeFit_spec rb p rb.abs (h.geo (by omega)) (content_of_wf rb h) (by omega) (by omega)

/-! So far each operation (`Length`, `Peek`, `Retrieve`, `RetrieveAll`, `Write`) is followed by its refinement lemma. Those of the
operations below are in OAP/Proofs/Ring.lean. -/

/-- `New(size)` -/
def new (size : Nat) : Ring := { buf := List.replicate size 0, size := size, r := 0, w := 0, isEmpty := true }

/-- `NewWithData(data)`: the ring holds `data` and is full -/
def newWithData (data : Bytes) : Ring := { buf := data, size := data.length, r := 0, w := 0, isEmpty := false }

/-- `Read(p)` with `len(p) = n`: the bytes copied into `p` and the new ring; `ErrIsEmpty` on an empty ring.
The copy logic is `Peek`'s; the read pointer moves by the number of bytes copied, `% size` panics on size 0. -/
def read (rb : Ring) (n : Nat) : Res (Bytes × Ring) :=
  if n = 0 then .ok ([], rb)
  else if rb.isEmpty then .err "ring buffer is empty"
  else
    let fe := rb.peek n
    let m := fe.1.length + fe.2.length
    if rb.size = 0 then .panic "integer divide by zero"
    else
      let r' := (rb.r + m) % rb.size
      .ok (fe.1 ++ fe.2, { rb with r := r', isEmpty := (r' == rb.w) })

/-- `PeekAll()` -/
def peekAll (rb : Ring) : Bytes × Bytes :=
  if rb.isEmpty then ([], [])
  else if rb.r < rb.w then ((rb.buf.drop rb.r).take (rb.w - rb.r), [])
  else (rb.buf.drop rb.r, rb.buf.take rb.w)

/-- `PeekUint8()` -/
def peekUint8 (rb : Ring) : Res UInt8 :=
  if rb.length < 1 then .ok 0 else
  let fe := rb.peek 1
  if fe.2.length > 0 then Bytes.idx fe.2 0 else Bytes.idx fe.1 0

/-- `PeekUint16()`: `binary.BigEndian.Uint16` panics on a slice shorter than 2 -/
def peekUint16 (rb : Ring) : Res UInt16 :=
  if rb.length < 2 then .ok 0 else
  let fe := rb.peek 2
  match fe.1 ++ fe.2 with
  | a :: b :: _ => .ok (rd16 a b)
  | _ => .panic "index out of range"

def peekUint32 (rb : Ring) : Res UInt32 :=
  if rb.length < 4 then .ok 0 else
  let fe := rb.peek 4
  match fe.1 ++ fe.2 with
  | a :: b :: c :: d :: _ => .ok (rd32 a b c d)
  | _ => .panic "index out of range"

def peekUint64 (rb : Ring) : Res UInt64 :=
  if rb.length < 8 then .ok 0 else
  let fe := rb.peek 8
  match fe.1 ++ fe.2 with
  | a :: b :: c :: d :: e :: f :: g :: h :: _ => .ok (rd64 a b c d e f g h)
  | _ => .panic "index out of range"

end Ring

end OAP
