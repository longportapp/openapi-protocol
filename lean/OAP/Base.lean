/-
Base definitions shared by every model: byte strings, outcomes (ok | err | panic),
big-endian field encodings (their lemmas: OAP/Proofs/BigEndian.lean), checked slices and the writes into a fixed buffer
(`Bytes.set`, `putBE…`, `copyAt`: the generated encoders), and the two ways a finite table is put before `decide` (`forall_byte`,
`forall_nibbles`; `decons` peels a list known to be long enough).
Core Lean only: no Mathlib import, so that the driver links as an executable.
-/
namespace OAP

abbrev Bytes := List UInt8

/-- Outcome of a Go function: a value, a returned error, or a run-time panic
(index out of range, slice bounds, nil dereference, close of closed channel …). -/
inductive Res (α : Type) where
  | ok (a : α)
  | err (e : String)
  | panic (why : String)
  deriving Repr, DecidableEq

namespace Res
def isOk {α} : Res α → Bool | .ok _ => true | _ => false
def isErr {α} : Res α → Bool | .err _ => true | _ => false
def isPanic {α} : Res α → Bool | .panic _ => true | _ => false
def map {α β} (f : α → β) : Res α → Res β
  | .ok a => .ok (f a) | .err e => .err e | .panic w => .panic w
def bind {α β} (r : Res α) (f : α → Res β) : Res β :=
  match r with | .ok a => f a | .err e => .err e | .panic w => .panic w
instance : Monad Res where
  pure := Res.ok
  bind := Res.bind
def toOption {α} : Res α → Option α | .ok a => some a | _ => none
end Res

@[simp] theorem Res.ok_bind {α β} (a : α) (f : α → Res β) : (Res.ok a >>= f) = f a := rfl
@[simp] theorem Res.err_bind {α β} (e : String) (f : α → Res β) : ((Res.err e : Res α) >>= f) = .err e := rfl
@[simp] theorem Res.panic_bind {α β} (w : String) (f : α → Res β) : ((Res.panic w : Res α) >>= f) = .panic w := rfl
@[simp] theorem Res.pure_eq {α} (a : α) : (pure a : Res α) = .ok a := rfl

/-- `Res.ok_bind` with a proof that is not `rfl`. `simp` applies a `rfl` lemma definitionally and leaves no proof step; on a long
`do` block (`Header.UnpackBytes`) the kernel then re-does the unfolding of the whole bind chain at every such step, seconds per use.
(`GenFuncs.rbind_ok`, `rbind_err`, `rbind_panic`: the same for the `Res.bind` spelling of the generated code.) -/
theorem Res.ok_bind' {α β} (a : α) (f : α → Res β) : (Res.ok a >>= f) = f a := by
  show Res.bind (Res.ok a) f = f a
  unfold Res.bind; rfl

theorem Res.bind_ok_right {α} (r : Res α) : r.bind (fun a => Res.ok a) = r := by cases r <;> rfl

theorem Res.bind_noPanic {α β} {r : Res α} {f : α → Res β} (h1 : r.isPanic = false)
    (h2 : ∀ a, r = .ok a → (f a).isPanic = false) : (r >>= f).isPanic = false := by
  cases r with
  | ok a => exact h2 a rfl
  | err e => rfl
  | panic w => cases h1

theorem Res.bind_eq_ok {α β} {r : Res α} {f : α → Res β} {x : β} (h : (r >>= f) = .ok x) : ∃ a, r = .ok a ∧ f a = .ok x := by
  cases r with
  | ok a => exact ⟨a, rfl, h⟩
  | err e => cases h
  | panic w => cases h

theorem Res.ok_of_isOk {α} {r : Res α} (h : r.isOk = true) : ∃ a, r = .ok a := by
  cases r with
  | ok a => exact ⟨a, rfl⟩
  | err e => cases h
  | panic w => cases h

theorem Res.ok_or_err {α} {r : Res α} (h : r.isPanic = false) : (∃ a, r = .ok a) ∨ (∃ e, r = .err e) := by
  cases r with
  | ok a => exact .inl ⟨a, rfl⟩
  | err e => exact .inr ⟨e, rfl⟩
  | panic w => cases h

/-! ### Checked slice operations: `panic` exactly where Go panics -/

/-- `d[i]` -/
def Bytes.idx (d : Bytes) (i : Nat) : Res UInt8 :=
  match d[i]? with
  | some b => .ok b
  | none => .panic "index out of range"

/-- `d[lo:hi]` -/
def Bytes.slice (d : Bytes) (lo hi : Nat) : Res Bytes :=
  if lo ≤ hi ∧ hi ≤ d.length then .ok ((d.take hi).drop lo) else .panic "slice bounds out of range"

/-- `d[lo:]` -/
def Bytes.sliceFrom (d : Bytes) (lo : Nat) : Res Bytes :=
  if lo ≤ d.length then .ok (d.drop lo) else .panic "slice bounds out of range"

theorem Bytes.slice_ok (d : Bytes) (lo hi : Nat) (h1 : lo ≤ hi) (h2 : hi ≤ d.length) :
    Bytes.slice d lo hi = .ok ((d.take hi).drop lo) := by simp [Bytes.slice, h1, h2]
theorem Bytes.sliceFrom_ok (d : Bytes) (lo : Nat) (h : lo ≤ d.length) :
    Bytes.sliceFrom d lo = .ok (d.drop lo) := by simp [Bytes.sliceFrom, h]
theorem Bytes.idx_ok (d : Bytes) (i : Nat) (h : i < d.length) : Bytes.idx d i = .ok d[i] := by
  simp [Bytes.idx, h]

theorem excons {α} (n : Nat) (w : List α) (h : n + 1 ≤ w.length) : ∃ a t, w = a :: t ∧ n ≤ t.length := by
  cases w with
  | nil => simp at h
  | cons a t => exact ⟨a, t, rfl, by simpa using h⟩

/-- peel one element off a list known to be long enough: `h : n + 1 ≤ w.length` becomes `h : n ≤ t.length` with `w` replaced by `_ :: t` -/
macro "decons" h:ident : tactic =>
  `(tactic| (obtain ⟨_, _, he, h'⟩ := excons _ _ $h; subst he; clear $h; have $h := h'; clear h'))

/-- `tab` is the form `decide +kernel` checks -/
theorem forall_byte {P : UInt8 → Prop} (tab : ∀ f : Fin 256, P (.ofFin f)) (b : UInt8) : P b := by
  simpa using tab b.toFin

theorem forall_nibbles {P : UInt8 → UInt8 → Prop} (tab : ∀ lo hi : Fin 16, P (.ofNat lo.val) (.ofNat hi.val))
    {l h : UInt8} (hl : l < 16) (hh : h < 16) : P l h := by
  simpa using tab ⟨l.toNat, UInt8.lt_iff_toNat_lt.mp hl⟩ ⟨h.toNat, UInt8.lt_iff_toNat_lt.mp hh⟩

/-! ### Big-endian encodings, written with the shifts the Go code uses -/

def be16 (x : UInt16) : Bytes := [(x >>> (8 : UInt16)).toUInt8, x.toUInt8]
def be32 (x : UInt32) : Bytes :=
  [(x >>> (24 : UInt32)).toUInt8, (x >>> (16 : UInt32)).toUInt8, (x >>> (8 : UInt32)).toUInt8, x.toUInt8]
def be24 (x : UInt32) : Bytes := [(x >>> (16 : UInt32)).toUInt8, (x >>> (8 : UInt32)).toUInt8, x.toUInt8]
def be64 (x : UInt64) : Bytes :=
  [(x >>> (56 : UInt64)).toUInt8, (x >>> (48 : UInt64)).toUInt8, (x >>> (40 : UInt64)).toUInt8,
   (x >>> (32 : UInt64)).toUInt8, (x >>> (24 : UInt64)).toUInt8, (x >>> (16 : UInt64)).toUInt8,
   (x >>> (8 : UInt64)).toUInt8, x.toUInt8]
def rd16 (a b : UInt8) : UInt16 := (a.toUInt16 <<< (8 : UInt16)) ||| b.toUInt16
def rd32 (a b c d : UInt8) : UInt32 :=
  (a.toUInt32 <<< (24 : UInt32)) ||| (b.toUInt32 <<< (16 : UInt32)) ||| (c.toUInt32 <<< (8 : UInt32)) ||| d.toUInt32
def rd24 (a b c : UInt8) : UInt32 :=
  (a.toUInt32 <<< (16 : UInt32)) ||| (b.toUInt32 <<< (8 : UInt32)) ||| c.toUInt32
def rd64 (a b c d e f g h : UInt8) : UInt64 :=
  (a.toUInt64 <<< (56 : UInt64)) ||| (b.toUInt64 <<< (48 : UInt64)) ||| (c.toUInt64 <<< (40 : UInt64)) |||
  (d.toUInt64 <<< (32 : UInt64)) ||| (e.toUInt64 <<< (24 : UInt64)) ||| (f.toUInt64 <<< (16 : UInt64)) |||
  (g.toUInt64 <<< (8 : UInt64)) ||| h.toUInt64

/-! ### Buffer writes and big-endian accessors as the generated function translations use them
(`Gen/Funcs.lean`): `panic` exactly where Go panics -/

/-- `d[i] = v` -/
def Bytes.set (d : Bytes) (i : Nat) (v : UInt8) : Res Bytes :=
  if i < d.length then .ok (List.set d i v) else .panic "index out of range"

/-- `binary.BigEndian.PutUint16(d[lo:hi], v)`: the slice expression is checked against the length (= capacity for a
buffer from `make([]byte, n)`), then `PutUint16` needs two bytes -/
def Bytes.putBE16 (d : Bytes) (lo hi : Nat) (v : UInt16) : Res Bytes :=
  if lo ≤ hi ∧ hi ≤ d.length then
    (if hi - lo < 2 then .panic "index out of range" else .ok (d.take lo ++ be16 v ++ d.drop (lo + 2)))
  else .panic "slice bounds out of range"

/-- `binary.BigEndian.PutUint32(d[lo:hi], v)` -/
def Bytes.putBE32 (d : Bytes) (lo hi : Nat) (v : UInt32) : Res Bytes :=
  if lo ≤ hi ∧ hi ≤ d.length then
    (if hi - lo < 4 then .panic "index out of range" else .ok (d.take lo ++ be32 v ++ d.drop (lo + 4)))
  else .panic "slice bounds out of range"

/-- `binary.BigEndian.Uint16(d[lo:hi])` -/
def Bytes.rdBE16 (d : Bytes) (lo hi : Nat) : Res UInt16 :=
  if lo ≤ hi ∧ hi ≤ d.length then
    (match (d.take hi).drop lo with
     | a :: b :: _ => .ok (rd16 a b)
     | _ => .panic "index out of range")
  else .panic "slice bounds out of range"

/-- `binary.BigEndian.Uint32(d[lo:hi])` -/
def Bytes.rdBE32 (d : Bytes) (lo hi : Nat) : Res UInt32 :=
  if lo ≤ hi ∧ hi ≤ d.length then
    (match (d.take hi).drop lo with
     | a :: b :: c :: e :: _ => .ok (rd32 a b c e)
     | _ => .panic "index out of range")
  else .panic "slice bounds out of range"

/-- `binary.BigEndian.Uint64(d[lo:hi])` -/
def Bytes.rdBE64 (d : Bytes) (lo hi : Nat) : Res UInt64 :=
  if lo ≤ hi ∧ hi ≤ d.length then
    (match (d.take hi).drop lo with
     | a :: b :: c :: e :: f :: g :: h :: i :: _ => .ok (rd64 a b c e f g h i)
     | _ => .panic "index out of range")
  else .panic "slice bounds out of range"

/-- `binary.BigEndian.PutUint64(d[lo:hi], v)` -/
def Bytes.putBE64 (d : Bytes) (lo hi : Nat) (v : UInt64) : Res Bytes :=
  if lo ≤ hi ∧ hi ≤ d.length then
    (if hi - lo < 8 then .panic "index out of range" else .ok (d.take lo ++ be64 v ++ d.drop (lo + 8)))
  else .panic "slice bounds out of range"

/-- `copy(dst[off:], src)` (`copy(dst, src)` is `off = 0`): the slice expression panics when `off > len(dst)`; `copy` itself never
panics and copies `min(len(dst) - off, len(src))` bytes; the rest of `dst` keeps its contents -/
def Bytes.copyAt (dst : Bytes) (off : Nat) (src : Bytes) : Res Bytes :=
  if off ≤ dst.length then
    .ok (dst.take off ++ src.take (min (dst.length - off) src.length) ++ dst.drop (off + min (dst.length - off) src.length))
  else .panic "slice bounds out of range"

end OAP
