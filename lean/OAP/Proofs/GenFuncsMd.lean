/-
marshalString / unmarshalStringLength (go/metadata.go) = Metadata.marshalString / Metadata.unmarshalStringLength.
Function-level T2 tie, as in GenFuncsHdr.lean.
-/
import OAP.Gen.Funcs
import OAP.Model.Metadata
namespace OAP.GenFuncs
open OAP OAP.Gen.Fn

theorem marshalString_gen (s : Bytes) :
    protocol_marshalString s = .ok (match Metadata.marshalString s with | some d => (d, false) | none => ([], true)) := by
  unfold protocol_marshalString Metadata.marshalString
  simp only [Gen.protocol_max7BitLength, Gen.protocol_max15BitLength, Gen.mdLenFirst, Gen.mdLenSecond]
  by_cases h1 : s.length ≤ 127
  · simp [h1]
  · by_cases h2 : s.length ≤ 32767 <;> simp [h1, h2]

theorem mask128 : ∀ b : UInt8, b &&& 128 = 0 ∨ b &&& 128 = 128 := forall_byte (by decide +kernel)

theorem unmarshalStringLength_gen (data : Bytes) :
    protocol_unmarshalStringLength data = Metadata.unmarshalStringLength data := by
  unfold protocol_unmarshalStringLength Metadata.unmarshalStringLength
  match data with
  | [] => rfl
  | [b0] =>
    simp only [Metadata.len7, Metadata.len15, Gen.protocol_length7Bit, Gen.protocol_length15Bit, Gen.mdBitSize, Gen.mdLen7]
    rcases mask128 b0 with h | h <;> simp [Bytes.idx, h, Res.bind]
  | b0 :: b1 :: rest =>
    simp only [Metadata.len7, Metadata.len15, Gen.protocol_length7Bit, Gen.protocol_length15Bit, Gen.mdBitSize, Gen.mdLen7,
      Gen.mdLen15, Gen.mdLen15First, Gen.mdLen15Second, Gen.protocol_max7BitLength]
    rcases mask128 b0 with h | h
    · simp [Bytes.idx, h, Res.bind]
    · simp [Bytes.idx, h, Res.bind]
      by_cases hc : (b0.toNat &&& 127) * 256 + b1.toNat ≤ 127 <;> simp [hc]

end OAP.GenFuncs
