/-
v1/v2 `func (h *Header) Unpack(ctx, buffer *ringbuffer.RingBuffer) (done bool, err error)` — the resumable header decoder the TCP
reader runs (go/v1/header.go, go/v2/v2_header.go) — as GENERATED by `extract/funcs.go` into `OAP/Gen/Funcs.lean`, is the hand-written
`Frame.Header.unpackRing` (OAP/Model/Stream.lean): for EVERY header state (fresh, byte 0 parsed, done) and EVERY ring (no
well-formedness hypothesis: both sides are built from the same ring operations `length / peekUintN / peek / retrieve` of
OAP/Model/Ring.lean, which stay opaque here) the same new header, the same new ring, the same `done`, the same error, the same panic.
-/
import OAP.Proofs.GenFuncsHdr
import OAP.Proofs.StreamRing
namespace OAP.GenFuncs
open OAP OAP.Gen.Fn

/-- the outcome of the model's `Header.unpackRing` in the shape of the generated function's result: a panic is `Res.panic`
(the state at the panic is dropped, as a Go panic leaves nothing to observe), everything else — the returned error included — is a
value next to the new header and the new ring -/
def hout (o : Frame.HOut) : Res (Header × Ring × Bool × Option String) :=
  match o.panic with
  | some w => .panic w
  | none => .ok (o.h, o.rb, o.done, o.err)

/-- `v1.Header` has no `MetadataLength`: converting back keeps the model header's (untouched) field -/
def v1B (m : UInt16) (g : V1Header) : Header := { v1M g with metadataLength := m }

/-! The model turns an `err` of `PeekUintN` into a panic (`| .err e => .panic e`), the generated bind would propagate it as `err`:
the model's `Ring.peekUintN` never return `err` (`Ring.peekUintN_ne_err`, OAP/Proofs/Ring.lean), so the two agree. -/
/-- one `PeekUintN` of the decoder: `err` is impossible, a panic is the same panic on both sides, `ok` goes on -/
macro "peekcase" t:term "," l:term : tactic => `(tactic| (
  rcases hp : $t with b | e | w
  rotate_left
  · exact absurd hp ($l _ _)
  · simp [hout, Res.map, rbind_panic]
  simp [rbind_ok]))

/-- the split 3-byte body length, `switch len(f)` over the two slices of `Peek(3)`: both sides are evaluated for each shape of the two -/
macro "len3eval" t:term : tactic => `(tactic| (
  generalize $t = fe
  obtain ⟨f, e⟩ := fe
  rcases f with _ | ⟨f0, _ | ⟨f1, _ | ⟨f2, ft⟩⟩⟩ <;> rcases e with _ | ⟨e0, _ | ⟨e1, _ | ⟨e2, et⟩⟩⟩ <;> rfl))

/-- a result `X >>= K` seen through `f`, given what `K` is through `f` on every value. Applied to a goal, `K` is whatever
continuation stands there: a statement about generated code that has no name, without its text. -/
theorem map_bind_of {α β γ} {f : β → γ} {K : α → Res β} {P : α → Res γ} (hK : ∀ a, (K a).map f = P a) (X : Res α) :
    (Res.bind X K).map f = Res.bind X P := by
  cases X with
  | ok a => exact hK a
  | err e => rfl
  | panic w => rfl

/-! Each proof follows the control flow of the function once. The generated function reads byte 0 (unless the header has it) and
binds the result to the rest of its body. That rest is taken as `K` of `map_bind_of`: it is `hdrTail` for EVERY header and ring
(packet type 1 / 2 / 3 / other, enough bytes or not), whichever way byte 0 got into the header.
The numerals in `rb.length < 10`, `9`, `4`, `12`, `11`, `6` are `hdrLen v t - 1` of the branch, as the `simp` before leaves it. -/

theorem v1_header_unpack_gen (h : Header) (rb : Ring) :
    (v1_Header_Unpack (v1G h) rb).map (fun p => (v1B h.metadataLength p.1, p.2)) = hout (Frame.Header.unpackRing .v1 h rb) := by
  obtain ⟨rid, bl, to, ty, vf, gz, rs, cc, sc, bu, iu, ml⟩ := h
  rw [Frame.Header.unpackRing_eq]
  unfold v1_Header_Unpack
  simp only [v1G]
  by_cases hl : rb.length = 0
  · simp only [hl, beq_self_eq_true, ↓reduceIte]; rfl
  simp only [hl, beq_iff_eq, ↓reduceIte]
  cases iu
  · refine (map_bind_of (P := fun a => hout (Frame.hdrTail .v1 (v1B ml a.1) a.2)) ?_ _).trans ?_
    · rintro ⟨⟨rid, bl, to, ty, vf, gz, rs, cc, sc, bu, iu⟩, rb⟩
      unfold Frame.hdrTail Frame.Header.unpackRest
      simp only [v1B, v1M, v1_Header_IsUnknownPacket, Frame.isUnknown, Frame.tReq, Frame.tResp, Frame.tPush, Frame.hdrLen,
        Frame.reqLen, Frame.respLen, Frame.pushLen, Gen.v1_RequestPacket, Gen.v1_ResponsePacket, Gen.v1_PushPacket,
        Gen.v1_RequestHeaderLen, Gen.v1_ResponseHeaderLen, Gen.v1_PushHeaderLen, UInt8.reduceOfNat, beq_iff_eq, Bool.not_eq_true',
        Bool.or_eq_false_iff, beq_eq_false_iff_ne, ne_eq]
      rcases type123_or_other ty with (ht | ht | ht) | hk
      · simp +decide only [ht, rbind_ok, ↓reduceIte]
        by_cases hs : rb.length < 10
        · simp only [hs, decide_true, ↓reduceIte]; rfl
        · simp only [hs, decide_false, ↓reduceIte, Bool.false_eq_true]
          peekcase rb.peekUint8, Ring.peekUint8_ne_err
          peekcase (rb.retrieve 1).peekUint32, Ring.peekUint32_ne_err
          peekcase ((rb.retrieve 1).retrieve 4).peekUint16, Ring.peekUint16_ne_err
          len3eval (((rb.retrieve 1).retrieve 4).retrieve 2).peek 3
      · simp +decide only [ht, rbind_ok, ↓reduceIte]
        by_cases hs : rb.length < 9
        · simp only [hs, decide_true, ↓reduceIte]; rfl
        · simp only [hs, decide_false, ↓reduceIte, Bool.false_eq_true]
          peekcase rb.peekUint8, Ring.peekUint8_ne_err
          peekcase (rb.retrieve 1).peekUint32, Ring.peekUint32_ne_err
          peekcase ((rb.retrieve 1).retrieve 4).peekUint8, Ring.peekUint8_ne_err
          len3eval (((rb.retrieve 1).retrieve 4).retrieve 1).peek 3
      · simp +decide only [ht, rbind_ok, ↓reduceIte]
        by_cases hs : rb.length < 4
        · simp only [hs, decide_true, ↓reduceIte]; rfl
        · simp only [hs, decide_false, ↓reduceIte, Bool.false_eq_true]
          peekcase rb.peekUint8, Ring.peekUint8_ne_err
          len3eval (rb.retrieve 1).peek 3
      · simp +decide only [hk, rbind_ok, ↓reduceIte]; rfl
    · cases bu
      · rcases hp0 : rb.peekUint8 with b | e | w
        · rfl
        · exact absurd hp0 (Ring.peekUint8_ne_err _ _)
        · rfl
      · rfl
  · rfl

theorem v2_header_unpack_gen (h : Header) (rb : Ring) :
    (v2_Header_Unpack (v2G h) rb).map (fun p => (v2M p.1, p.2)) = hout (Frame.Header.unpackRing .v2 h rb) := by
  obtain ⟨rid, bl, to, ty, vf, gz, rs, cc, sc, bu, iu, ml⟩ := h
  rw [Frame.Header.unpackRing_eq]
  unfold v2_Header_Unpack
  simp only [v2G]
  by_cases hl : rb.length = 0
  · simp only [hl, beq_self_eq_true, ↓reduceIte]; rfl
  simp only [hl, beq_iff_eq, ↓reduceIte]
  cases iu
  · refine (map_bind_of (P := fun a => hout (Frame.hdrTail .v2 (v2M a.1) a.2)) ?_ _).trans ?_
    · rintro ⟨⟨ml, rid, bl, to, ty, vf, gz, rs, cc, sc, bu, iu⟩, rb⟩
      unfold Frame.hdrTail Frame.Header.unpackRest
      simp only [v2M, v1_Header_IsUnknownPacket, V2Header.toV1Header, Frame.isUnknown, Frame.tReq, Frame.tResp, Frame.tPush,
        Frame.hdrLen, Frame.reqLen, Frame.respLen, Frame.pushLen, Gen.v1_RequestPacket, Gen.v1_ResponsePacket, Gen.v1_PushPacket,
        Gen.v2_RequestHeaderLen, Gen.v2_ResponseHeaderLen, Gen.v2_PushHeaderLen, UInt8.reduceOfNat, beq_iff_eq, Bool.not_eq_true',
        Bool.or_eq_false_iff, beq_eq_false_iff_ne, ne_eq]
      rcases type123_or_other ty with (ht | ht | ht) | hk
      · simp +decide only [ht, rbind_ok, ↓reduceIte]
        by_cases hs : rb.length < 12
        · simp only [hs, decide_true, ↓reduceIte]; rfl
        · simp only [hs, decide_false, ↓reduceIte, Bool.false_eq_true]
          peekcase rb.peekUint8, Ring.peekUint8_ne_err
          peekcase (rb.retrieve 1).peekUint32, Ring.peekUint32_ne_err
          peekcase ((rb.retrieve 1).retrieve 4).peekUint16, Ring.peekUint16_ne_err
          peekcase (((rb.retrieve 1).retrieve 4).retrieve 2).peekUint16, Ring.peekUint16_ne_err
          len3eval ((((rb.retrieve 1).retrieve 4).retrieve 2).retrieve 2).peek 3
      · simp +decide only [ht, rbind_ok, ↓reduceIte]
        by_cases hs : rb.length < 11
        · simp only [hs, decide_true, ↓reduceIte]; rfl
        · simp only [hs, decide_false, ↓reduceIte, Bool.false_eq_true]
          peekcase rb.peekUint8, Ring.peekUint8_ne_err
          peekcase (rb.retrieve 1).peekUint32, Ring.peekUint32_ne_err
          peekcase ((rb.retrieve 1).retrieve 4).peekUint8, Ring.peekUint8_ne_err
          peekcase (((rb.retrieve 1).retrieve 4).retrieve 1).peekUint16, Ring.peekUint16_ne_err
          len3eval ((((rb.retrieve 1).retrieve 4).retrieve 1).retrieve 2).peek 3
      · simp +decide only [ht, rbind_ok, ↓reduceIte]
        by_cases hs : rb.length < 6
        · simp only [hs, decide_true, ↓reduceIte]; rfl
        · simp only [hs, decide_false, ↓reduceIte, Bool.false_eq_true]
          peekcase rb.peekUint8, Ring.peekUint8_ne_err
          peekcase (rb.retrieve 1).peekUint16, Ring.peekUint16_ne_err
          len3eval ((rb.retrieve 1).retrieve 2).peek 3
      · simp +decide only [hk, rbind_ok, ↓reduceIte]; rfl
    · cases bu
      · rcases hp0 : rb.peekUint8 with b | e | w
        · rfl
        · exact absurd hp0 (Ring.peekUint8_ne_err _ _)
        · rfl
      · rfl
  · rfl

/-! the same, read from the generated side: every state of the generated structs -/

/-- a `v1.Header` has no `MetadataLength`; the model header carries 0 there and keeps it -/
theorem v1_header_unpack_gen' (g : V1Header) (rb : Ring) :
    (v1_Header_Unpack g rb).map (fun p => (v1M p.1, p.2)) = hout (Frame.Header.unpackRing .v1 (v1M g) rb) := by
  have := v1_header_unpack_gen (v1M g) rb
  simpa [v1G, v1M, v1B] using this

theorem v2_header_unpack_gen' (g : V2Header) (rb : Ring) :
    (v2_Header_Unpack g rb).map (fun p => (v2M p.1, p.2)) = hout (Frame.Header.unpackRing .v2 (v2M g) rb) := by
  have := v2_header_unpack_gen (v2M g) rb
  simpa [v2G, v2M] using this

/-- non-vacuity, decided: a ring of capacity 8 whose 5-byte v1 push header wraps around the end of the buffer (read offset 6):
the generated decoder consumes the header and reports `done` with body length 0x010203, the bytes coming from both slices of `Peek(3)` -/
theorem v1_unpack_wrapped_example :
    (match v1_Header_Unpack {} { buf := [0x01, 0x02, 0x03, 0, 0, 0, 0x03, 0x07], size := 8, r := 6, w := 3, isEmpty := false } with
     | .ok (g, rb', done, err) =>
       g.type == 3 && g.cmdCode == 7 && g.bodyLength == 0x010203 && g.beginUnpack && g.isUnpacked && rb'.isEmpty && done && err.isNone
     | _ => false) = true := by decide

/-- decided: on an unknown packet type the error comes WITH the state the Go function leaves behind — byte 0 consumed from the
ring, `BeginUnpack` set — which is why the translation carries the error as a component of the result -/
theorem v2_unpack_unknown_example :
    (match v2_Header_Unpack {} { buf := [0x04, 0x09], size := 2, r := 0, w := 0, isEmpty := false } with
     | .ok (g, rb', done, err) =>
       g.type == 4 && g.beginUnpack && !g.isUnpacked && rb'.r == 1 && rb'.length == 1 && !done && err == some "invalid packet type"
     | _ => false) = true := by decide

end OAP.GenFuncs
