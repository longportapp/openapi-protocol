/-
Completeness of the streaming decoder (the converse of `stream_matches_oneshot_abs`) and the end-to-end streaming round trip:
one valid layout frame (`decode_accepts_stream`), back-to-back frames through the read loop, every chunking of them, over the
queue and over the real ring. Helper lemmas for C01 (`roundtrip_stream`) and C03 (`stream_yields_each_frame`).
Defined here and used in the statements of C01, C03, C20: `Forall₂` (two lists related element by element) and
`Denotes` (a valid layout frame and the packet its fields denote).
-/
import OAP.Proofs.Frame
import OAP.Proofs.StreamRing
namespace OAP
namespace Frame

theorem needLen_coreHdr (v : Ver) (h : Header) : needLen v (coreHdr h) = needLen v h := rfl

theorem needLen_hdrOf {v : Ver} {gz : GzOracle} {f : Spec.Frame} {content : Bytes} {ps : List Metadata.Pair}
    (hv : ValidFrame v gz f content ps) :
    needLen v (hdrOf v f) = (mdOf v f ++ f.body ++ trailerOf f).length := by
  obtain ⟨hbl, hml, hver, _⟩ := hdrOf_facts hv
  have htr := trailerOf_length hv
  simp only [needLen, s_mdLenOf_eq, hbl, hml, hver, trailerLen_eq, List.length_append, htr]
  by_cases h1 : f.verify = 1
  · simp only [h1, decide_true, ↓reduceIte]; omega
  · simp only [h1, decide_false, Bool.false_eq_true, ↓reduceIte]; omega

theorem sresToRes_ok (s : SRes) (k : Packet) (h : sresToRes s = .ok k) : s = .pkt k := by
  cases s <;> simp_all [sresToRes]

/-- COMPLETENESS of the streaming decoder w.r.t. the published layout: for every valid layout frame
followed by ANY bytes `rest` (the beginning of the next frame, garbage, nothing), one call from a
fresh context delivers exactly `packetOf f codec content ps` — the packet the one-shot decoder
returns on the frame alone (`unpackBytes_spec`) — parks nothing and leaves exactly `rest` queued -/
theorem decode_accepts_stream (v : Ver) (gz : GzOracle) (codec : UInt8) (f : Spec.Frame) (content : Bytes)
    (ps : List Metadata.Pair) (rest : Bytes) (hv : ValidFrame v gz f content ps) :
    unpackAbs v gz codec none (Spec.encode v f ++ rest) = (.pkt (packetOf f codec content ps), none, rest) := by
  obtain ⟨b, w, hw, hkn, hwl⟩ := hdrBytes_shape hv
  have hone := unpackBytes_spec hv codec
  have hspec := Header.unpackBytes_spec hv (mdOf v f ++ f.body ++ trailerOf f)
  have hneed := needLen_hdrOf hv
  rw [encode_split, hw, List.cons_append] at hone ⊢
  rw [hw, List.cons_append] at hspec
  generalize mdOf v f ++ f.body ++ trailerOf f = d at *
  -- the one-shot decoder's header and packet on the frame alone are the streaming decoder's
  have hh := unpackBytes_hdr_append v b w d hkn hwl
  have hH : coreHdr (hdrAt v b w) = hdrOf v f := by
    rw [hspec] at hh; exact (Prod.mk.inj (Res.ok.inj hh)).1.symm
  have hd : d.length = needLen v (hdrAt v b w) := by rw [← needLen_coreHdr, hH, hneed]
  have hp := sresToRes_ok _ _ ((unpackBytes_body v gz codec _ _ d hh hd).symm.trans hone)
  have hr := bodyFull_rest v gz codec _ d _ hp
  rw [← hd, List.drop_length] at hr
  rw [List.cons_append, List.append_assoc, unpack_fresh_frame v gz codec b w d rest hkn hwl hd, hp, hr]; rfl

end Frame

/-- core Lean has no `List.Forall₂` -/
inductive Forall₂ {α β : Type} (R : α → β → Prop) : List α → List β → Prop
  | nil : Forall₂ R [] []
  | cons {a : α} {b : β} {as : List α} {bs : List β} : R a b → Forall₂ R as bs → Forall₂ R (a :: as) (b :: bs)

theorem Forall₂.length_eq {α β : Type} {R : α → β → Prop} {as : List α} {bs : List β}
    (h : Forall₂ R as bs) : as.length = bs.length := by
  induction h with
  | nil => rfl
  | cons _ _ ih => simp [ih]

theorem forall₂_iff_getElem {α β : Type} (R : α → β → Prop) (as : List α) (bs : List β) :
    Forall₂ R as bs ↔ as.length = bs.length ∧ ∀ (i : Nat) (h1 : i < as.length) (h2 : i < bs.length), R as[i] bs[i] := by
  constructor
  · intro h
    refine ⟨h.length_eq, ?_⟩
    induction h with
    | nil => intro i h1; simp at h1
    | cons hab _ ih =>
      intro i h1 h2
      cases i with
      | zero => exact hab
      | succ j => exact ih j (by simpa using h1) (by simpa using h2)
  · induction as generalizing bs with
    | nil =>
      rintro ⟨hl, _⟩
      cases bs with
      | nil => exact .nil
      | cons b bs => simp at hl
    | cons a as ih =>
      rintro ⟨hl, hR⟩
      cases bs with
      | nil => simp at hl
      | cons b bs =>
        refine .cons (hR 0 (by simp) (by simp)) (ih bs ⟨by simpa using hl, ?_⟩)
        intro i h1 h2
        exact hR (i + 1) (by simpa using h1) (by simpa using h2)

theorem Forall₂.imp {α β : Type} {R S : α → β → Prop} (hRS : ∀ a b, R a b → S a b) {as : List α} {bs : List β}
    (h : Forall₂ R as bs) : Forall₂ S as bs := by
  induction h with
  | nil => exact .nil
  | cons hab _ ih => exact .cons (hRS _ _ hab) ih

theorem Forall₂.append {α β : Type} {R : α → β → Prop} {as as' : List α} {bs bs' : List β}
    (h : Forall₂ R as bs) (h' : Forall₂ R as' bs') : Forall₂ R (as ++ as') (bs ++ bs') := by
  induction h with
  | nil => exact h'
  | cons h1 _ ih => exact .cons h1 ih

theorem forall₂_map_left {α β γ : Type} (R : α → β → Prop) (g : γ → α) (cs : List γ) (bs : List β) :
    Forall₂ R (cs.map g) bs ↔ Forall₂ (fun c b => R (g c) b) cs bs := by
  constructor
  · intro h
    induction cs generalizing bs with
    | nil => cases h; exact .nil
    | cons c cs ih => cases h with | cons hab ht => exact .cons hab (ih _ ht)
  · intro h
    induction h with
    | nil => exact .nil
    | cons hab _ ih => exact .cons hab ih

namespace Frame

/-- `Denotes v gz codec f q`: `f` is a valid frame of the published layout (for some decompressed
content and metadata pairs) and `q` is the packet its field values denote -/
def Denotes (v : Ver) (gz : GzOracle) (codec : UInt8) (f : Spec.Frame) (q : Packet) : Prop :=
  ∃ content ps, ValidFrame v gz f content ps ∧ q = packetOf f codec content ps

theorem Denotes.oneshot {v : Ver} {gz : GzOracle} {codec : UInt8} {f : Spec.Frame} {q : Packet}
    (h : Denotes v gz codec f q) : unpackBytes v gz codec (Spec.encode v f) = .ok q := by
  obtain ⟨content, ps, hv, rfl⟩ := h
  exact unpackBytes_spec hv codec

theorem denotes_of_oneshot {v : Ver} {gz : GzOracle} {codec : UInt8} {f : Spec.Frame} {content : Bytes}
    {ps : List Metadata.Pair} (hv : ValidFrame v gz f content ps) {q : Packet}
    (h : unpackBytes v gz codec (Spec.encode v f) = .ok q) : Denotes v gz codec f q := by
  rw [unpackBytes_spec hv codec] at h
  exact ⟨content, ps, hv, by injection h with h; exact h.symm⟩

theorem denotes_list {v : Ver} {gz : GzOracle} (codec : UInt8) {fs : List Spec.Frame}
    (hv : ∀ f ∈ fs, ∃ content ps, ValidFrame v gz f content ps) : ∃ qs, Forall₂ (Denotes v gz codec) fs qs := by
  induction fs with
  | nil => exact ⟨[], .nil⟩
  | cons f fs ih =>
    obtain ⟨content, ps, hf⟩ := hv f (by simp)
    obtain ⟨qs, hqs⟩ := ih (fun g hg => hv g (by simp [hg]))
    exact ⟨_, .cons ⟨content, ps, hf, rfl⟩ hqs⟩

theorem run_frames_append (v : Ver) (gz : GzOracle) (codec : UInt8) (fs : List Spec.Frame) (qs : List Packet)
    (rest : Bytes) (h : Forall₂ (Denotes v gz codec) fs qs) :
    run v gz codec ((fs.map (Spec.encode v)).flatten ++ rest) =
      (qs ++ (run v gz codec rest).1, (run v gz codec rest).2) := by
  induction h with
  | nil => simp
  | cons hab _ ih =>
    obtain ⟨content, ps, hv, rfl⟩ := hab
    rw [List.map_cons, List.flatten_cons, List.append_assoc,
      run_pkt v gz codec (decode_accepts_stream v gz codec _ content ps _ hv), ih]
    rfl

/-- the read loop over a stream of back-to-back valid frames delivers exactly the denoted packets, in
order, and stops for want of data on an empty queue (parked header `some {}`: the state `Parked.idle`) -/
theorem run_frames (v : Ver) (gz : GzOracle) (codec : UInt8) (fs : List Spec.Frame) (qs : List Packet)
    (h : Forall₂ (Denotes v gz codec) fs qs) :
    run v gz codec (fs.map (Spec.encode v)).flatten = (qs, (.more, some {}, [])) := by
  have := run_frames_append v gz codec fs qs [] h
  rw [run_nil] at this
  simpa using this

/-- the same with each frame's content and metadata pairs given explicitly -/
theorem frames_decode_in_order (v : Ver) (gz : GzOracle) (codec : UInt8)
    (fs : List (Spec.Frame × Bytes × List Metadata.Pair))
    (hv : ∀ x ∈ fs, ValidFrame v gz x.1 x.2.1 x.2.2) :
    run v gz codec (fs.map (fun x => Spec.encode v x.1)).flatten =
      (fs.map (fun x => packetOf x.1 codec x.2.1 x.2.2), (.more, some {}, [])) := by
  have h : Forall₂ (Denotes v gz codec) (fs.map (·.1)) (fs.map (fun x => packetOf x.1 codec x.2.1 x.2.2)) := by
    induction fs with
    | nil => exact .nil
    | cons x xs ih =>
      exact .cons ⟨x.2.1, x.2.2, hv x (by simp), rfl⟩ (ih (fun y hy => hv y (by simp [hy])))
  have := run_frames v gz codec _ _ h
  simpa [List.map_map, Function.comp_def] using this

/-- COMPLETENESS of the connection's read side: a stream of back-to-back valid frames, cut into
chunks in ANY way, is delivered as exactly the denoted packets, in order, with no error verdict -/
theorem feed_frames (v : Ver) (gz : GzOracle) (codec : UInt8) (fs : List Spec.Frame) (qs : List Packet)
    (h : Forall₂ (Denotes v gz codec) fs qs) (chunks : List Bytes)
    (hc : chunks.flatten = (fs.map (Spec.encode v)).flatten) :
    (feed v gz codec chunks).obs = (qs, none) := by
  rw [feed_obs, hc, run_frames v gz codec fs qs h]
  rfl

/-- the same over the real ring buffer: the chunks are `Write`-n into ANY well-formed empty ring
(any capacity, any offsets) and `Unpack` is looped after each -/
theorem rfeed_frames (v : Ver) (gz : GzOracle) (codec : UInt8) (fs : List Spec.Frame) (qs : List Packet)
    (h : Forall₂ (Denotes v gz codec) fs qs) (rb0 : Ring) (wf : rb0.WF) (he : rb0.abs = []) (chunks : List Bytes)
    (hc : chunks.flatten = (fs.map (Spec.encode v)).flatten) :
    (rfeed v gz codec rb0 chunks).obs = (qs, none) := by
  rw [rfeed_obs v gz codec rb0 wf he chunks]
  exact feed_frames v gz codec fs qs h chunks hc

end Frame
end OAP
