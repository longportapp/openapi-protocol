/-
Refinement lemmas for the remaining ring-buffer operations (`Read`, `PeekAll`, `PeekUintN`, the constructors):
under `WF` each acts on `abs` as the corresponding byte-queue operation. For `PeekUintN` that is the total
`Q.u8 … Q.u64` of OAP/Proofs/BigEndian.lean (0 on a short queue, like the Go methods), so no length hypothesis is needed.
`Holds rb q` (`WF` and `abs = q`) restates the lemmas with the queue named: a decoder that walks through several rings
carries one `Holds` per ring and rewrites by closed equations.
What `Retrieve` and `Read` leave alone on any ring: `buf`, `size`, and a `w` that is 0 (`retrieve_w0`, `retrieve_buf`,
`read_w_buf_size`); with `w = 0`, `PeekAll` returns everything in its first slice (`peekAll_w0`). `PeekUint8/16/32` return no `err` on any ring
(`peekUint8_ne_err` …).
-/
import OAP.Model.Ring
import OAP.Proofs.BigEndian
namespace OAP

namespace Ring

theorem length_pos_iff (rb : Ring) (h : rb.WF) : 0 < rb.length ↔ rb.isEmpty = false ∧ 0 < rb.size := by
  have := h.bounds
  rcases h.cases with ⟨he, _, _, e⟩ | ⟨he, _, _, e⟩ | ⟨he, _, _, e⟩ <;> simp [e, he] <;> omega

theorem advance_all (rb : Ring) (h : rb.WF) (hl : 0 < rb.length) :
    (rb.r + rb.length) % rb.size = rb.w := by
  have := h.bounds
  rcases h.cases with ⟨_, _, _, e⟩ | ⟨_, _, _, e⟩ | ⟨_, _, _, e⟩ <;> rw [e] at hl ⊢
  · omega
  · rw [Nat.mod_eq_of_lt (by omega)]; omega
  · rw [mod_wrap (by omega) (by omega)]; omega

/-- `Read(p)` with `len(p) = n`. `0 < rb.length` excludes both `ErrIsEmpty` (ring flagged empty) and the
panic of `% size` (capacity 0). -/
theorem read_spec (rb : Ring) (h : rb.WF) (n : Nat) (hn : 0 < n) (hl : 0 < rb.length) :
    ∃ rb', rb.read n = .ok (rb.abs.take n, rb') ∧ rb'.WF ∧ rb'.abs = rb.abs.drop n := by
  obtain ⟨he, hz⟩ := (length_pos_iff rb h).1 hl
  have hpk := peek_abs rb h n
  have hla := length_abs rb h
  have hm : (rb.peek n).1.length + (rb.peek n).2.length = min n rb.length := by
    rw [← List.length_append, hpk, List.length_take, hla]
  simp only [read, show n ≠ 0 by omega, he, show rb.size ≠ 0 by omega, ↓reduceIte, hpk, hm,
    Bool.false_eq_true]
  refine ⟨_, rfl, ?_⟩
  rcases Nat.lt_or_ge n rb.length with hlt | hge
  · -- partial read
    obtain ⟨hne, hw⟩ := advance_spec rb h n hn hlt
    rw [Nat.min_eq_left (by omega), beq_false_of_ne (Ne.symm hne)]; exact hw
  · -- everything is read: r meets w, the ring is flagged empty
    have := h.bounds
    rw [Nat.min_eq_right hge, advance_all rb h hl, List.drop_of_length_le (by omega)]
    exact ⟨.of_lt h.len (by omega) (by omega) fun _ => rfl, by simp [abs]⟩

theorem read_zero (rb : Ring) : rb.read 0 = .ok ([], rb) := by simp [read]

theorem read_empty (rb : Ring) (n : Nat) (hn : 0 < n) (he : rb.isEmpty = true) :
    rb.read n = .err "ring buffer is empty" := by
  simp [read, show n ≠ 0 by omega, he]

theorem read_ok (rb c : Ring) (h : rb.WF) (n : Nat) (d : Bytes) (hr : rb.read n = .ok (d, c)) :
    c.WF ∧ d = rb.abs.take n ∧ c.abs = rb.abs.drop n := by
  by_cases hn : n = 0
  · subst hn; rw [read_zero] at hr; cases hr; simp [h]
  by_cases hl : 0 < rb.length
  · obtain ⟨rb', e, hw, ha⟩ := read_spec rb h n (by omega) hl
    rw [e] at hr; cases hr; exact ⟨hw, rfl, ha⟩
  · rw [length_pos_iff rb h] at hl
    cases he : rb.isEmpty <;> simp_all [read]

theorem retrieve_w0 (rb : Ring) (n : Nat) (hw : rb.w = 0) : (rb.retrieve n).w = 0 := by
  unfold Ring.retrieve
  split
  · exact hw
  · split
    · exact hw
    · rfl

theorem retrieve_buf (rb : Ring) (n : Nat) : (rb.retrieve n).buf = rb.buf ∧ (rb.retrieve n).size = rb.size := by
  unfold Ring.retrieve
  split
  · exact ⟨rfl, rfl⟩
  · split <;> exact ⟨rfl, rfl⟩

theorem read_w_buf_size {rb c : Ring} {n : Nat} {d : Bytes} (h : rb.read n = .ok (d, c)) :
    c.w = rb.w ∧ c.buf = rb.buf ∧ c.size = rb.size := by
  unfold Ring.read at h
  split at h
  · simp only [Res.ok.injEq, Prod.mk.injEq] at h; obtain ⟨_, rfl⟩ := h; exact ⟨rfl, rfl, rfl⟩
  · split at h
    · cases h
    · simp only at h
      split at h
      · cases h
      · simp only [Res.ok.injEq, Prod.mk.injEq] at h; obtain ⟨_, rfl⟩ := h; exact ⟨rfl, rfl, rfl⟩

theorem peekAll_abs (rb : Ring) (_h : rb.WF) : (rb.peekAll).1 ++ (rb.peekAll).2 = rb.abs := by
  unfold peekAll abs
  by_cases he : rb.isEmpty = true
  · simp [he]
  · simp only [he, Bool.false_eq_true, ↓reduceIte]
    split <;> simp

theorem peekAll_w0 (rb : Ring) (wf : rb.WF) (hw : rb.w = 0) :
    rb.peekAll.2 = [] ∧ rb.peekAll.1 = rb.abs := by
  have h := peekAll_abs rb wf
  have h2 : rb.peekAll.2 = [] := by
    unfold Ring.peekAll
    split
    · rfl
    · split
      · rfl
      · simp [hw]
  rw [h2, List.append_nil] at h
  exact ⟨h2, h⟩

theorem peekUint8_ne_err (rb : Ring) (e : String) : rb.peekUint8 ≠ .err e := by
  unfold Ring.peekUint8 Bytes.idx
  intro h; split at h
  · cases h
  · simp only at h; split at h <;> split at h <;> cases h

theorem peekUint16_ne_err (rb : Ring) (e : String) : rb.peekUint16 ≠ .err e := by
  unfold Ring.peekUint16
  intro h; split at h
  · cases h
  · simp only at h; split at h <;> cases h

theorem peekUint32_ne_err (rb : Ring) (e : String) : rb.peekUint32 ≠ .err e := by
  unfold Ring.peekUint32
  intro h; split at h
  · cases h
  · simp only at h; split at h <;> cases h

structure Holds (rb : Ring) (q : Bytes) : Prop where
  wf : rb.WF
  abs : rb.abs = q

theorem WF.holds {rb : Ring} (h : rb.WF) : rb.Holds rb.abs := ⟨h, rfl⟩

namespace Holds
variable {rb : Ring} {q : Bytes}
theorem new (n : Nat) : (Ring.new n).Holds [] :=
  ⟨by constructor <;> simp [Ring.new], by simp [Ring.new, Ring.abs]⟩
theorem newWithData (d : Bytes) : (Ring.newWithData d).Holds d :=
  ⟨by constructor <;> simp [Ring.newWithData] <;> omega, by simp [Ring.newWithData, Ring.abs]⟩
theorem retrieve (h : rb.Holds q) (n : Nat) : (rb.retrieve n).Holds (q.drop n) :=
  ⟨(retrieve_spec rb h.wf n).1, h.abs ▸ (retrieve_spec rb h.wf n).2⟩
theorem peekUint8 (h : rb.Holds q) : rb.peekUint8 = .ok (Q.u8 q) := by
  obtain ⟨h, rfl⟩ := h
  have hpk := peek_abs rb h 1
  unfold Ring.peekUint8
  rw [length_abs rb h]
  rcases hq : rb.abs with _ | ⟨a, t⟩
  · rfl
  · rw [hq] at hpk
    rcases hf : (rb.peek 1).1 with _ | ⟨x, xs⟩ <;> rw [hf] at hpk <;> simp_all [Q.u8, Bytes.idx]
theorem peekUint16 (h : rb.Holds q) : rb.peekUint16 = .ok (Q.u16 q) := by
  obtain ⟨h, rfl⟩ := h
  unfold Ring.peekUint16
  simp only [length_abs rb h, peek_abs rb h]
  rcases rb.abs with _ | ⟨a, _ | ⟨b, t⟩⟩ <;> simp [Q.u16] <;> omega
theorem peekUint32 (h : rb.Holds q) : rb.peekUint32 = .ok (Q.u32 q) := by
  obtain ⟨h, rfl⟩ := h
  unfold Ring.peekUint32
  simp only [length_abs rb h, peek_abs rb h]
  rcases rb.abs with _ | ⟨a, _ | ⟨b, _ | ⟨c, _ | ⟨d, t⟩⟩⟩⟩ <;> simp [Q.u32] <;> omega
theorem peekUint64 (h : rb.Holds q) : rb.peekUint64 = .ok (Q.u64 q) := by
  obtain ⟨h, rfl⟩ := h
  unfold Ring.peekUint64
  simp only [length_abs rb h, peek_abs rb h]
  rcases rb.abs with _ | ⟨a, _ | ⟨b, _ | ⟨c, _ | ⟨d, _ | ⟨e, _ | ⟨f, _ | ⟨g, _ | ⟨i, t⟩⟩⟩⟩⟩⟩⟩⟩ <;>
    simp [Q.u64] <;> omega
theorem length (h : rb.Holds q) : rb.length = q.length := h.abs ▸ length_abs rb h.wf
/-- the form used by the decoders: they only read what `Length()` has promised -/
theorem read (h : rb.Holds q) (n : Nat) (hn : n ≤ q.length) :
    ∃ rb', rb.read n = .ok (q.take n, rb') ∧ rb'.Holds (q.drop n) := by
  have hl := h.length
  obtain ⟨wf, rfl⟩ := h
  by_cases h0 : n = 0
  · subst h0; exact ⟨rb, by simp [read_zero], wf, by simp⟩
  · obtain ⟨rb', e, w, a⟩ := read_spec rb wf n (by omega) (by omega)
    exact ⟨rb', e, w, a⟩
theorem write (h : rb.Holds q) (p : Bytes) : (rb.write p).Holds (q ++ p) :=
  ⟨(write_spec rb h.wf p).1, h.abs ▸ (write_spec rb h.wf p).2⟩
end Holds

end Ring
end OAP
