/-
protocolV1.UnpackBytes / protocolV2.UnpackBytes (go/v1/v1.go, go/v2/v2.go) and Header.Metadata (go/v1/header.go)
= Frame.unpackBytes / Frame.Header.toPacket.
Function-level T2 tie, as in GenFuncsHdr.lean, whose `v1_header_unpackBytes_gen` / `v2_header_unpackBytes_gen` stand for the header decoder.
-/
import OAP.Proofs.Frame
import OAP.Proofs.GenFuncsHdr
namespace OAP.GenFuncs
open OAP OAP.Gen.Fn OAP.Frame

/-- the generated enum of `protocol.PacketType` (declared constants + "") against the model's `PType` -/
def toModelPType : GPacketType → PType
  | .zero => .other | .requestPacket => .request | .responsePacket => .response | .pushPacket => .push

/-- the generated `protocol.Packet` (with its `*Metadata`) as the model's flat `Packet` -/
def toModelPacket (g : GPacket) : Packet :=
  { type := toModelPType g.metadata.type, cmd := g.metadata.cmdCode, rid := g.metadata.requestId, timeout := g.metadata.timeout
    status := g.metadata.statusCode, verify := g.metadata.verify, gzip := g.metadata.gzip, nonce := g.metadata.nonce
    signature := g.metadata.signature, values := g.metadata.values, codec := g.metadata.codec, body := g.body }

/-- `UnmarshalValues` lower-cases the keys; the model's one-shot decoder keeps the raw pairs (see C01.Equiv) -/
def lowerKeys (lower : Bytes → Bytes) (p : Packet) : Packet := { p with values := p.values.map (fun kv => (lower kv.1, kv.2)) }

def headerMd (g : V1Header) (codec : UInt8) : GMetadata :=
  { type := if g.type = 1 then .requestPacket else if g.type = 2 then .responsePacket else if g.type = 3 then .pushPacket else .zero
    codec := codec, timeout := g.timeout, cmdCode := g.cmdCode.toUInt32, requestId := g.requestId, statusCode := g.statusCode
    verify := g.verify == 1, gzip := g.gzip == 1 }

theorem v1_header_metadata_eq (g : V1Header) (codec : UInt8) : v1_Header_Metadata g codec = .ok (headerMd g codec) := by
  unfold v1_Header_Metadata headerMd
  rcases type123_or_other g.type with (h | h | h) | ⟨h1, h2, h3⟩ <;> simp [*, Res.bind]

theorem toModel_headerMd (g : V1Header) (codec : UInt8) (b : Bytes) :
    toModelPacket { metadata := headerMd g codec, body := b } = { Header.toPacket (v1M g) codec with body := b } := by
  unfold headerMd toModelPacket Header.toPacket v1M
  simp only [tReq, tResp, tPush, Gen.v1_RequestPacket, Gen.v1_ResponsePacket, Gen.v1_PushPacket]
  rcases type123_or_other g.type with (h | h | h) | ⟨h1, h2, h3⟩ <;> simp [*, toModelPType]

/-- the eight nonce bytes as the model reads them (`slice`, then a match on the list) and as the generated code does (`rdBE64`) -/
theorem nonce_slice (d : Bytes) (lo : Nat) (h : lo + 8 ≤ d.length) :
    ∃ a b c e f g i j, Bytes.slice d lo (lo + 8) = .ok [a, b, c, e, f, g, i, j] ∧
      Bytes.rdBE64 d lo (lo + 8) = .ok (rd64 a b c e f g i j) := by
  have hl : ((d.take (lo + 8)).drop lo).length = 8 := by simp; omega
  match hs : (d.take (lo + 8)).drop lo, hl with
  | [a, b, c, e, f, g, i, j], _ => exact ⟨a, b, c, e, f, g, i, j, by simp [Bytes.slice, h, hs], by simp [Bytes.rdBE64, h, hs]⟩

theorem trailer24 : trailerLen = 24 := trailerLen_eq

theorem decompress_map (gz : GzOracle) (b : Bytes) (p : GPacket) :
    (Res.bind (Gzip.decompress gz b) fun t => (Res.ok (some { p with body := t }) : Res (Option GPacket))).map (Option.map toModelPacket) =
      (match Gzip.decompress gz b with
        | .ok t => Res.ok { toModelPacket p with body := t }
        | .err e => .err e
        | .panic w => .panic w).map some := by
  cases Gzip.decompress gz b <;> simp [Res.bind, Res.map, toModelPacket]

theorem v1_body_gen (gz : GzOracle) (codec : UInt8) (bs : Bytes) (g : V1Header) (data : Bytes)
    (h : v1_Header_UnpackBytes {} bs = .ok (g, data)) :
    (v1_protocolV1_UnpackBytes gz codec bs).map (Option.map toModelPacket) =
      (oneShotBody .v1 gz codec (v1M g) data).map some := by
  unfold v1_protocolV1_UnpackBytes oneShotBody
  simp only [h, Res.bind, mdLenOf, v1_header_metadata_eq]
  have hbl : (v1M g).bodyLength = g.bodyLength := rfl
  have hv : (v1M g).verify = g.verify := rfl
  have hg : (v1M g).gzip = g.gzip := rfl
  have hT := toModel_headerMd g codec
  by_cases hs : data.length < g.bodyLength.toNat
  · simp [hs, hbl, Res.map]
  · have e0 : Bytes.slice data 0 0 = .ok [] := Bytes.slice_ok data 0 0 (by omega) (by omega)
    have e1 : Bytes.slice data 0 g.bodyLength.toNat = .ok (data.take g.bodyLength.toNat) := Bytes.slice_ok data 0 _ (by omega) (by omega)
    simp only [hs, hbl, Nat.add_zero, e0, e1, withValues, Res.ok_bind', decide_false, Bool.false_eq_true, ↓reduceIte]
    rw [← hT]
    unfold verifyStage gzStage
    simp only [hv, hg, trailerLen_eq]
    by_cases hv1 : g.verify = 1
    · by_cases hsh : data.length < g.bodyLength.toNat + 24
      · simp [hv1, hsh, Res.map]
      · obtain ⟨a, b, c, e, f, g', i, j, hn1, hn2⟩ := nonce_slice data g.bodyLength.toNat (by omega)
        have e2 := Bytes.sliceFrom_ok data (g.bodyLength.toNat + 8) (by omega)
        simp only [hv1, hsh, nonceLen_eq, hn1, hn2, e2, Res.ok_bind', beq_self_eq_true, decide_false, Bool.false_eq_true, ↓reduceIte]
        by_cases hg1 : g.gzip = 1
        · simp only [hg1, beq_self_eq_true, ↓reduceIte]
          cases hd : Gzip.decompress gz (List.take g.bodyLength.toNat data) <;> simp [hd, Res.map, toModelPacket]
        · simp [hg1, Res.map, toModelPacket]
    · by_cases hg1 : g.gzip = 1
      · simp only [hv1, hg1, beq_self_eq_true, beq_iff_eq, ↓reduceIte, Res.ok_bind']
        cases hd : Gzip.decompress gz (List.take g.bodyLength.toNat data) <;> simp [hd, Res.map, toModelPacket]
      · simp [hv1, hg1, Res.map, toModelPacket]

theorem v1_unpackBytes_gen (gz : GzOracle) (codec : UInt8) (bs : Bytes) :
    (v1_protocolV1_UnpackBytes gz codec bs).map (Option.map toModelPacket) = (Frame.unpackBytes .v1 gz codec bs).map some := by
  rw [unpackBytes_eq, ← v1_header_unpackBytes_gen]
  cases h : v1_Header_UnpackBytes {} bs with
  | ok r =>
    obtain ⟨g, data⟩ := r
    rw [v1_body_gen gz codec bs g data h]
    simp only [Res.map, Res.ok_bind']
  | err e => unfold v1_protocolV1_UnpackBytes; simp [h, Res.bind, Res.map]
  | panic w => unfold v1_protocolV1_UnpackBytes; simp [h, Res.bind, Res.map]

/-- needed because v2.go adds the two lengths in uint32 -/
theorem v2_gen_bodyLength_lt (bs : Bytes) (g : V2Header) (data : Bytes) (h : v2_Header_UnpackBytes {} bs = .ok (g, data)) :
    g.bodyLength.toNat < 16777216 := by
  have := v2_header_unpackBytes_gen bs
  rw [h] at this
  exact Header.unpackBytes_bodyLength_lt .v2 bs (v2M g) data this.symm

theorem v2_body_gen (gz : GzOracle) (lower : Bytes → Bytes) (codec : UInt8) (bs : Bytes) (g : V2Header) (data : Bytes)
    (h : v2_Header_UnpackBytes {} bs = .ok (g, data)) (hb : g.bodyLength.toNat < 16777216) :
    (v2_protocolV2_UnpackBytes gz lower codec bs).map (Option.map toModelPacket) =
      (oneShotBody .v2 gz codec (v2M g) data).map (fun p => some (lowerKeys lower p)) := by
  unfold v2_protocolV2_UnpackBytes oneShotBody
  simp only [h, Res.bind, mdLenOf, v1_header_metadata_eq]
  have hbl : (v2M g).bodyLength = g.bodyLength := rfl
  have hml : (v2M g).metadataLength = g.metadataLength := rfl
  have hv : (v2M g).verify = g.verify := rfl
  have hg : (v2M g).gzip = g.gzip := rfl
  have hT := toModel_headerMd g.toV1Header codec
  have hP : Header.toPacket (v1M g.toV1Header) codec = Header.toPacket (v2M g) codec := rfl
  have hsum : (g.bodyLength + g.metadataLength.toUInt32).toNat = g.bodyLength.toNat + g.metadataLength.toNat := by
    have := g.metadataLength.toNat_lt
    simp [UInt32.toNat_add]; omega
  by_cases hs : data.length < g.bodyLength.toNat + g.metadataLength.toNat
  · simp [hs, hbl, hml, Res.map]
  · have e0 : Bytes.slice data 0 g.metadataLength.toNat = .ok (data.take g.metadataLength.toNat) :=
      Bytes.slice_ok data 0 _ (by omega) (by omega)
    have e1 := Bytes.slice_ok data g.metadataLength.toNat (g.bodyLength.toNat + g.metadataLength.toNat) (by omega) (by omega)
    simp only [hs, hbl, hml, hsum, e0, e1, Res.ok_bind', decide_false, Bool.false_eq_true, ↓reduceIte, ← hP]
    rw [← hT]
    unfold withValues Metadata.unmarshalValues
    cases hr : Metadata.rawPairs (List.take g.metadataLength.toNat data) with
    | err e => simp [Res.map]
    | panic w => simp [Res.map]
    | ok ps =>
      unfold verifyStage gzStage
      simp only [hv, hg, trailerLen_eq, Res.map, Res.ok_bind']
      by_cases hv1 : g.verify = 1
      · by_cases hsh : data.length < g.bodyLength.toNat + g.metadataLength.toNat + 24
        · simp [hv1, hsh]
        · obtain ⟨a, b, c, e, f, g', i, j, hn1, hn2⟩ := nonce_slice data (g.bodyLength.toNat + g.metadataLength.toNat) (by omega)
          have e2 := Bytes.sliceFrom_ok data (g.bodyLength.toNat + g.metadataLength.toNat + 8) (by omega)
          simp only [hv1, hsh, nonceLen_eq, hn1, hn2, e2, Res.ok_bind', beq_self_eq_true, decide_false, Bool.false_eq_true, ↓reduceIte]
          by_cases hg1 : g.gzip = 1
          · simp only [hg1, beq_self_eq_true, ↓reduceIte]
            cases hd : Gzip.decompress gz (List.drop g.metadataLength.toNat (List.take (g.bodyLength.toNat + g.metadataLength.toNat) data)) <;>
              simp [hd, toModelPacket, lowerKeys]
          · simp [hg1, toModelPacket, lowerKeys]
      · by_cases hg1 : g.gzip = 1
        · simp only [hv1, hg1, beq_self_eq_true, beq_iff_eq, ↓reduceIte, Res.ok_bind']
          cases hd : Gzip.decompress gz (List.drop g.metadataLength.toNat (List.take (g.bodyLength.toNat + g.metadataLength.toNat) data)) <;>
            simp [hd, toModelPacket, lowerKeys]
        · simp [hv1, hg1, toModelPacket, lowerKeys]

theorem v2_unpackBytes_gen (gz : GzOracle) (lower : Bytes → Bytes) (codec : UInt8) (bs : Bytes) :
    (v2_protocolV2_UnpackBytes gz lower codec bs).map (Option.map toModelPacket) =
      (Frame.unpackBytes .v2 gz codec bs).map (fun p => some (lowerKeys lower p)) := by
  rw [unpackBytes_eq, ← v2_header_unpackBytes_gen]
  cases h : v2_Header_UnpackBytes {} bs with
  | ok r =>
    obtain ⟨g, data⟩ := r
    rw [v2_body_gen gz lower codec bs g data h (v2_gen_bodyLength_lt bs g data h)]
    simp only [Res.map, Res.ok_bind']
  | err e => unfold v2_protocolV2_UnpackBytes; simp [h, Res.bind, Res.map]
  | panic w => unfold v2_protocolV2_UnpackBytes; simp [h, Res.bind, Res.map]

end OAP.GenFuncs
