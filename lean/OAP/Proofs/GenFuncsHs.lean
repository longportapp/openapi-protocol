/-
Handshake.Pack / Handshake.Unpack (go/protocol.go) = Handshake.pack / Handshake.unpack.
Function-level T2 tie, as in GenFuncsHdr.lean.
-/
import OAP.Gen.Funcs
import OAP.Model.Handshake
namespace OAP.GenFuncs
open OAP OAP.Gen.Fn

def hsG (h : Handshake) : GHandshake := ⟨h.version, h.codec, h.platform, h.reserve⟩
def hsM (g : GHandshake) : Handshake := ⟨g.version, g.codec, g.platform, g.reserve⟩

theorem handshake_pack_gen (h : Handshake) : protocol_Handshake_Pack (hsG h) = .ok (Handshake.pack h) := by
  rfl

theorem handshake_unpack_gen (g0 : GHandshake) (data : Bytes) :
    (protocol_Handshake_Unpack g0 data).map hsM = Handshake.unpack data := by
  unfold protocol_Handshake_Unpack Handshake.unpack
  match data with
  | [] => rfl
  | [_] => rfl
  | [b0, b1] => rfl
  | _ :: _ :: _ :: _ => simp [Res.map]

end OAP.GenFuncs
