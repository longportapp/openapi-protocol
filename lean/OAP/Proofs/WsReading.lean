/-
C20: the WebSocket reader goroutine (`OAP/Model/Client/WsReading.lean`) against the TCP reader goroutine
(`OAP/Model/Client/Reading.lean`, proved equal to the abstract stream decoder in `OAP/Proofs/Reading.lean`).
Defined here and used in the statements of C20: `asBinary`, the control frames of the layout (`hbReqFrame`, `hbRespFrame`,
`closeFrame`), the peer scripts (`Item`, `Item.ws`, `Item.tcp`, `Item.Ok`, `Item.Genuine`, `pingBodies`) and `SamePacket`.
-/
import OAP.Model.Client.WsReading
import OAP.Model.Client.Reading
import OAP.Proofs.Frame
import OAP.Proofs.Stream
import OAP.Proofs.StreamComplete
import OAP.Proofs.Reading
namespace OAP.WsReading
open OAP OAP.Frame

theorem step_stopped {v : Ver} {gz : GzOracle} {codec : UInt8} {env : Env} {s : WSt} {r : Stop}
    (h : s.stopped = some r) (ev : WsEvent) : step v gz codec env s ev = s := by
  unfold step; rw [h]

theorem foldl_stopped {v : Ver} {gz : GzOracle} {codec : UInt8} {env : Env} {s : WSt} {r : Stop}
    (h : s.stopped = some r) (evs : List WsEvent) : evs.foldl (step v gz codec env) s = s := by
  induction evs with
  | nil => rfl
  | cons ev evs ih => rw [List.foldl_cons, step_stopped h, ih]

/-- stated with the equation `h` of the stopping step, so that citing the lemma for that step names `s'` -/
theorem reading_stops_at {v : Ver} {gz : GzOracle} {codec : UInt8} {env : Env} {pre : List WsEvent} {ev : WsEvent}
    {s' : WSt} {r : Stop} (h : step v gz codec env (reading v gz codec env pre) ev = s') (hr : s'.stopped = some r)
    (post : List WsEvent) : reading v gz codec env (pre ++ ev :: post) = s' := by
  subst h
  unfold reading at hr ⊢
  rw [List.foldl_append, List.foldl_cons, foldl_stopped hr]

/-- `case websocket.BinaryMessage, websocket.TextMessage:` — one branch -/
theorem step_text (v : Ver) (gz : GzOracle) (codec : UInt8) (env : Env) (s : WSt) (d : Bytes) :
    step v gz codec env s (.text d) = step v gz codec env s (.binary d) := by
  unfold step; cases s.stopped <;> rfl

def asBinary : WsEvent → WsEvent
  | .text d => .binary d
  | e => e

theorem step_asBinary {v : Ver} {gz : GzOracle} {codec : UInt8} {env : Env} (s : WSt) (ev : WsEvent) :
    step v gz codec env s (asBinary ev) = step v gz codec env s ev := by
  cases ev <;> first | rfl | exact (step_text v gz codec env s _).symm

theorem foldl_asBinary {v : Ver} {gz : GzOracle} {codec : UInt8} {env : Env} (evs : List WsEvent) (s : WSt) :
    (evs.map asBinary).foldl (step v gz codec env) s = evs.foldl (step v gz codec env) s := by
  simp only [List.foldl_map, step_asBinary]

/-- "rejects" is the only alternative to "accepts": the decoder returns an error, it does not panic -/
theorem unpackBytes_ok_or_err (v : Ver) (gz : GzOracle) (codec : UInt8) (d : Bytes) :
    (∃ q, unpackBytes v gz codec d = .ok q) ∨ (∃ e, unpackBytes v gz codec d = .err e) :=
  Res.ok_or_err (unpackBytes_noPanic v gz codec d)

theorem readMessage_ne_panic {v : Ver} {gz : GzOracle} {codec : UInt8} {s : WSt} (d : Bytes) (hs : s.stopped = none)
    (w : String) : (readMessage v gz codec s d).stopped ≠ some (.panic w) := by
  unfold readMessage
  rcases unpackBytes_ok_or_err v gz codec d with ⟨p, h⟩ | ⟨e, h⟩ <;> simp [h, hs]

/-- the only way into a panic: a close frame whose `control.Close` cannot be marshalled -/
theorem step_panic {v : Ver} {gz : GzOracle} {codec : UInt8} {env : Env} {s : WSt} {ev : WsEvent} {w : String}
    (hs : s.stopped = none) (h : (step v gz codec env s ev).stopped = some (.panic w)) :
    ∃ code reason, ev = .close code reason ∧ (env.closeBody code reason = .err w ∨ env.closeBody code reason = .panic w) := by
  unfold step at h
  rw [hs] at h
  cases ev with
  | binary d | text d => exact absurd h (readMessage_ne_panic d hs w)
  | ping d =>
    simp only at h
    split at h <;> simp at h
  | pong d => simp at h
  | close code reason =>
    refine ⟨code, reason, rfl, ?_⟩
    simp only at h
    cases hc : env.closeBody code reason <;> simp_all
  | readError => simp at h

/-- a panic is the work of the first event that stops the reader, which `step_panic` says is a close frame -/
theorem foldl_panic {v : Ver} {gz : GzOracle} {codec : UInt8} {env : Env} {w : String} (evs : List WsEvent) {s : WSt}
    (hs : s.stopped = none) (h : (evs.foldl (step v gz codec env) s).stopped = some (.panic w)) :
    ∃ pre code reason post, evs = pre ++ .close code reason :: post ∧
      (pre.foldl (step v gz codec env) s).stopped = none ∧
      (env.closeBody code reason = .err w ∨ env.closeBody code reason = .panic w) := by
  induction evs generalizing s with
  | nil => rw [List.foldl_nil, hs] at h; cases h
  | cons ev evs ih =>
    rw [List.foldl_cons] at h
    cases hst : (step v gz codec env s ev).stopped with
    | none =>
      obtain ⟨pre, code, reason, post, e1, e2, e3⟩ := ih hst h
      exact ⟨ev :: pre, code, reason, post, by rw [e1]; rfl, by rw [List.foldl_cons]; exact e2, e3⟩
    | some r =>
      rw [foldl_stopped hst, hst] at h
      injection h with h; subst h
      obtain ⟨code, reason, rfl, hc⟩ := step_panic hs hst
      exact ⟨[], code, reason, evs, rfl, hs, hc⟩

/-- TOTALITY: with a context codec that can marshal `control.Close` (protobuf or JSON) the reader goroutine never
panics — in the decoder, in the handlers, in the packet constructors — whatever arrives, in whatever order -/
theorem ws_reader_total (v : Ver) (gz : GzOracle) (codec : UInt8) (env : Env)
    (hclose : ∀ code reason, ∃ b, env.closeBody code reason = .ok b) (evs : List WsEvent) (w : String) :
    (reading v gz codec env evs).stopped ≠ some (.panic w) := by
  intro h
  obtain ⟨_, code, reason, _, _, _, hc⟩ := foldl_panic evs rfl h
  obtain ⟨b, hb⟩ := hclose code reason
  rw [hb] at hc
  rcases hc with hc | hc <;> cases hc

/-- the same on the verdict as a Go outcome -/
theorem ws_reader_total_verdict (v : Ver) (gz : GzOracle) (codec : UInt8) (env : Env)
    (hclose : ∀ code reason, ∃ b, env.closeBody code reason = .ok b) (evs : List WsEvent) :
    (reading v gz codec env evs).verdict.isPanic = false := by
  have := ws_reader_total v gz codec env hclose evs
  unfold WSt.verdict
  cases hst : (reading v gz codec env evs).stopped with
  | none => rfl
  | some r => cases r <;> first | rfl | exact absurd hst (this _)

/-- … and data messages alone never make it panic, whatever the codec -/
theorem ws_reader_total_data (v : Ver) (gz : GzOracle) (codec : UInt8) (env : Env) (evs : List WsEvent)
    (hno : ∀ code reason, WsEvent.close code reason ∉ evs) (w : String) :
    (reading v gz codec env evs).stopped ≠ some (.panic w) := by
  intro h
  obtain ⟨pre, code, reason, post, he, _, _⟩ := foldl_panic evs rfl h
  exact hno code reason (by rw [he]; simp)

theorem step_binary_ok {v : Ver} {gz : GzOracle} {codec : UInt8} {env : Env} {s : WSt} {d : Bytes} {q : Packet}
    (hs : s.stopped = none) (h : unpackBytes v gz codec d = .ok q) :
    step v gz codec env s (.binary d) = { s with pkts := s.pkts ++ [q] } := by
  unfold step readMessage; rw [hs]; simp only [h]

theorem step_binary_err {v : Ver} {gz : GzOracle} {codec : UInt8} {env : Env} {s : WSt} {d : Bytes} {e : String}
    (hs : s.stopped = none) (h : unpackBytes v gz codec d = .err e) :
    step v gz codec env s (.binary d) = { s with stopped := some (.decode e) } := by
  unfold step readMessage; rw [hs]; simp only [h]

theorem foldl_binary_ok {v : Ver} {gz : GzOracle} {codec : UInt8} {env : Env} {ds : List Bytes} {qs : List Packet}
    (h : Forall₂ (fun d q => unpackBytes v gz codec d = .ok q) ds qs) (s : WSt) (hs : s.stopped = none) :
    (ds.map WsEvent.binary).foldl (step v gz codec env) s = { s with pkts := s.pkts ++ qs } := by
  induction h generalizing s with
  | nil => simp
  | @cons d q ds qs hab _ ih =>
    rw [List.map_cons, List.foldl_cons, step_binary_ok hs hab, ih { s with pkts := s.pkts ++ [q] } hs]
    simp [List.append_assoc]

theorem ws_reader_delivers {v : Ver} {gz : GzOracle} {codec : UInt8} (env : Env) (ds : List Bytes) (qs : List Packet)
    (h : Forall₂ (fun d q => unpackBytes v gz codec d = .ok q) ds qs) :
    (reading v gz codec env (ds.map .binary)).obs = (qs, none) := by
  unfold reading
  rw [foldl_binary_ok h {} rfl]
  simp [WSt.obs]

/-- THE WS READER DELIVERS EACH FRAME: one valid frame per binary message ↦ the packets the frames denote, in order,
and the reader is still reading -/
theorem ws_reader_delivers_denoted {v : Ver} {gz : GzOracle} {codec : UInt8} (env : Env) {fs : List Spec.Frame}
    {qs : List Packet} (h : Forall₂ (Denotes v gz codec) fs qs) :
    (reading v gz codec env ((fs.map (Spec.encode v)).map .binary)).obs = (qs, none) :=
  ws_reader_delivers env _ qs ((forall₂_map_left _ _ _ _).mpr (h.imp (fun _ _ hd => hd.oneshot)))

/-- TCP = WS ON FRAMES. For any list of valid frames of the published layout: the WebSocket reader given one frame per
binary message, and the TCP reader given the concatenation of the same frames cut into socket reads in ANY way (from any
well-formed empty left-over ring), hand the SAME packets to `addPacket`, in the same order — the i-th is what the
one-shot decoder returns on the i-th frame — and neither reports an error -/
theorem ws_reader_eq_tcp_on_frames (v : Ver) (gz : GzOracle) (codec : UInt8) (env : Env) (fs : List Spec.Frame)
    (hv : ∀ f ∈ fs, ∃ content ps, ValidFrame v gz f content ps)
    (rb0 : Ring) (wf : rb0.WF) (he : rb0.abs = [])
    (chunks : List Bytes) (hc : chunks.flatten = (fs.map (Spec.encode v)).flatten) :
    (reading v gz codec env ((fs.map (Spec.encode v)).map .binary)).pkts = (Reading.reading v gz codec rb0 chunks).pkts ∧
    (reading v gz codec env ((fs.map (Spec.encode v)).map .binary)).stopped = none ∧
    (Reading.reading v gz codec rb0 chunks).stopped = none ∧
    Forall₂ (fun f q => unpackBytes v gz codec (Spec.encode v f) = .ok q) fs
      (reading v gz codec env ((fs.map (Spec.encode v)).map .binary)).pkts := by
  obtain ⟨qs, hqs⟩ := denotes_list codec hv
  have hws := ws_reader_delivers_denoted env hqs
  have htcp := Reading.tcp_reader_frames v gz codec fs qs hqs rb0 wf he chunks hc
  simp only [WSt.obs, Prod.mk.injEq] at hws
  simp only [Reading.RSt.obs, Prod.mk.injEq] at htcp
  refine ⟨by rw [hws.1, htcp.1], hws.2, htcp.2, ?_⟩
  rw [hws.1]
  exact hqs.imp (fun _ _ hd => hd.oneshot)

/-- the same with text and binary messages mixed -/
theorem ws_reader_eq_tcp_on_frames_mixed (v : Ver) (gz : GzOracle) (codec : UInt8) (env : Env) (fs : List Spec.Frame)
    (hv : ∀ f ∈ fs, ∃ content ps, ValidFrame v gz f content ps)
    (msgs : List WsEvent) (hm : msgs.map asBinary = (fs.map (Spec.encode v)).map .binary)
    (rb0 : Ring) (wf : rb0.WF) (he : rb0.abs = [])
    (chunks : List Bytes) (hc : chunks.flatten = (fs.map (Spec.encode v)).flatten) :
    (reading v gz codec env msgs).pkts = (Reading.reading v gz codec rb0 chunks).pkts ∧
    (reading v gz codec env msgs).stopped = none ∧ (Reading.reading v gz codec rb0 chunks).stopped = none := by
  obtain ⟨h1, h2, h3, _⟩ := ws_reader_eq_tcp_on_frames v gz codec env fs hv rb0 wf he chunks hc
  rw [← hm, show reading v gz codec env (msgs.map asBinary) = reading v gz codec env msgs from
    foldl_asBinary msgs {}] at h1 h2
  exact ⟨h1, h2, h3⟩

/-- A BAD MESSAGE CLOSES THE CONNECTION. If the reader is still reading after `pre` and the next
data message is one the one-shot decoder rejects with `e`, then `conn.Close(e)` is called, the goroutine returns, what
was delivered is exactly what was delivered before the message — nothing for the message, nothing for whatever
arrives after it (`post`: data, pings, pongs, a close frame …) -/
theorem ws_reader_bad_message_closes (v : Ver) (gz : GzOracle) (codec : UInt8) (env : Env)
    (pre post : List WsEvent) (d : Bytes) (e : String)
    (hopen : (reading v gz codec env pre).stopped = none) (hbad : unpackBytes v gz codec d = .err e) :
    (reading v gz codec env (pre ++ .binary d :: post)).obs =
      ((reading v gz codec env pre).pkts, some (.decode e)) := by
  rw [reading_stops_at (step_binary_err hopen hbad) rfl post]
  rfl

/-! The synthetic packets of the control handlers are what the TCP decoder yields for the corresponding frames. -/

/-- the heartbeat REQUEST frame of the published layout -/
def hbReqFrame (rid : UInt32) (body : Bytes) : Spec.Frame :=
  { type := 1, verify := 0, gzip := 0, reserve := 0, cmd := 1, rid := rid.toNat, body := body }

/-- the heartbeat RESPONSE frame -/
def hbRespFrame (rid : UInt32) (status : UInt8) (body : Bytes) : Spec.Frame :=
  { type := 2, verify := 0, gzip := 0, reserve := 0, cmd := 1, rid := rid.toNat, status := status.toNat, body := body }

/-- the CLOSE frame: a push with command 0 and the marshalled `control.Close` as body -/
def closeFrame (body : Bytes) : Spec.Frame :=
  { type := 3, verify := 0, gzip := 0, reserve := 0, cmd := 0, body := body }

/-- what any decoder of the project returns for `hbRespFrame rid status body` -/
def respPacket (codec : UInt8) (rid : UInt32) (status : UInt8) (body : Bytes) : Packet :=
  { type := .response, cmd := cmdHeartbeat, rid := rid, status := status, codec := codec, body := body }

theorem plain_valid (v : Ver) (gz : GzOracle) {t cmd rid status : Nat} {body : Bytes} (ht : t = 1 ∨ t = 2 ∨ t = 3)
    (hc : cmd < 256) (hr : rid < 4294967296) (hs : status < 256) (hb : body.length < 16777216) :
    ValidFrame v gz { type := t, verify := 0, gzip := 0, reserve := 0, cmd := cmd, rid := rid, status := status, body := body }
      body [] :=
  { type := ht, verify := by simp, gzip := by simp, reserve := by simp, cmd := hc, rid := hr, timeout := by simp
    status := hs, nonce := by simp, sig := nofun, body := hb
    md1 := fun _ => ⟨rfl, rfl⟩, mdlen := by simp, md2 := fun _ => rfl, gz1 := nofun, gz0 := fun _ => rfl }

theorem hbReq_denotes (v : Ver) (gz : GzOracle) (codec : UInt8) (rid : UInt32) (body : Bytes)
    (hb : body.length < 16777216) : Denotes v gz codec (hbReqFrame rid body) (pingPacket codec rid body) :=
  ⟨body, [], plain_valid v gz (.inl rfl) (by decide) rid.toNat_lt (by decide) hb,
    by simp [packetOf, hbReqFrame, pingPacket, cmdHeartbeat, WsMap.cmdHeartbeat]⟩

theorem hbResp_denotes (v : Ver) (gz : GzOracle) (codec : UInt8) (rid : UInt32) (status : UInt8) (body : Bytes)
    (hb : body.length < 16777216) : Denotes v gz codec (hbRespFrame rid status body) (respPacket codec rid status body) :=
  ⟨body, [], plain_valid v gz (.inr (.inl rfl)) (by decide) rid.toNat_lt status.toNat_lt hb,
    by simp [packetOf, hbRespFrame, respPacket, cmdHeartbeat, WsMap.cmdHeartbeat]⟩

theorem close_denotes (v : Ver) (gz : GzOracle) (codec : UInt8) (body : Bytes)
    (hb : body.length < 16777216) : Denotes v gz codec (closeFrame body) (closePacket codec body) :=
  ⟨body, [], plain_valid v gz (.inr (.inr rfl)) (by decide) (by decide) (by decide) hb,
    by simp [packetOf, closeFrame, closePacket, cmdClose, WsMap.cmdClose]⟩

theorem pongPacket_eq_resp (codec : UInt8) (hbId : Bytes → Option UInt32) (body : Bytes) :
    pongPacket codec hbId body = respPacket codec ((hbId body).getD 0) 0 body := rfl

/-- PING ↦ the pong is written back with the same payload, then a heartbeat REQUEST packet is delivered, its request id
DRAWN LOCALLY from `conn.qctx.NextReqId()` -/
theorem step_ping {v : Ver} {gz : GzOracle} {codec : UInt8} {env : Env} {s : WSt} {d : Bytes}
    (hs : s.stopped = none) (hp : env.pongOk s.pings = true) :
    step v gz codec env s (.ping d) =
      { s with pongs := s.pongs ++ [d], pkts := s.pkts ++ [pingPacket codec (env.reqId s.pings) d], pings := s.pings + 1 } := by
  unfold step; rw [hs]; simp only [hp, ↓reduceIte]

/-- … when the pong cannot be written nothing is delivered, no id is drawn, and the reader ends -/
theorem step_ping_fail (v : Ver) (gz : GzOracle) (codec : UInt8) (env : Env) (s : WSt) (d : Bytes)
    (hs : s.stopped = none) (hp : env.pongOk s.pings = false) :
    step v gz codec env s (.ping d) = { s with pings := s.pings + 1, stopped := some .pongWrite } := by
  unfold step; rw [hs]; simp only [hp, Bool.false_eq_true, ↓reduceIte]

/-- PONG ↦ a heartbeat RESPONSE packet: command 1, status 0, body = the pong payload, request id = the heartbeat id
decoded from the payload, 0 when the payload does not decode or carries none -/
theorem step_pong {v : Ver} {gz : GzOracle} {codec : UInt8} {env : Env} {s : WSt} {d : Bytes} (hs : s.stopped = none) :
    step v gz codec env s (.pong d) = { s with pkts := s.pkts ++ [pongPacket codec env.hbId d] } := by
  unfold step; rw [hs]

/-- CLOSE ↦ a close packet (push, command 0, body = `control.Close{code, reason}` marshalled with the context's
codec), then the reader ends with the close error -/
theorem step_close {v : Ver} {gz : GzOracle} {codec : UInt8} {env : Env} {s : WSt} {code : Nat} {reason b : Bytes}
    (hs : s.stopped = none) (hb : env.closeBody code reason = .ok b) :
    step v gz codec env s (.close code reason) =
      { s with pkts := s.pkts ++ [closePacket codec b], stopped := some (.peerClose code reason) } := by
  unfold step; rw [hs]; simp only [hb]

/-- … and PANICS when the body cannot be marshalled -/
theorem step_close_panic (v : Ver) (gz : GzOracle) (codec : UInt8) (env : Env) (s : WSt) (code : Nat) (reason : Bytes)
    (e : String) (hs : s.stopped = none) (hb : env.closeBody code reason = .err e) :
    step v gz codec env s (.close code reason) = { s with stopped := some (.panic e) } := by
  unfold step; rw [hs]; simp only [hb]

/-- one step of a peer script that both transports can carry -/
inductive Item where
  /-- a request / response / push frame -/
  | data (f : Spec.Frame)
  /-- the peer's heartbeat; `rid` is the request id in the TCP frame header (a ping frame has no place for it) -/
  | hbReq (rid : UInt32) (body : Bytes)
  /-- the peer's answer to a heartbeat of the client; `rid`, `status`: the TCP frame header's (a pong frame has only
  the payload) -/
  | hbResp (rid : UInt32) (status : UInt8) (body : Bytes)

/-- the script over WebSocket: data as one binary message per frame, heartbeats as ping / pong control frames -/
def Item.ws (v : Ver) : Item → WsEvent
  | .data f => .binary (Spec.encode v f)
  | .hbReq _ body => .ping body
  | .hbResp _ _ body => .pong body

/-- the script over TCP: every step is a frame on the byte stream -/
def Item.tcp : Item → Spec.Frame
  | .data f => f
  | .hbReq rid body => hbReqFrame rid body
  | .hbResp rid status body => hbRespFrame rid status body

def Item.Ok (v : Ver) (gz : GzOracle) : Item → Prop
  | .data f => ∃ content ps, ValidFrame v gz f content ps
  | .hbReq _ body => body.length < 16777216       -- gorilla: a control payload has at most 125 bytes
  | .hbResp _ _ body => body.length < 16777216

def pingBodies : List Item → List Bytes
  | [] => []
  | .hbReq _ body :: is => body :: pingBodies is
  | _ :: is => pingBodies is

/-- `Rendered k items W T`: `W` are the packets the WebSocket reader delivers for the script when `k` pings were
handled before it, `T` the packets the TCP frames denote -/
inductive Rendered (v : Ver) (gz : GzOracle) (codec : UInt8) (env : Env) : Nat → List Item → List Packet → List Packet → Prop
  | nil (k : Nat) : Rendered v gz codec env k [] [] []
  | data {k : Nat} {f : Spec.Frame} {q : Packet} {is : List Item} {W T : List Packet} :
      Denotes v gz codec f q → Rendered v gz codec env k is W T → Rendered v gz codec env k (.data f :: is) (q :: W) (q :: T)
  | hbReq {k : Nat} {rid : UInt32} {body : Bytes} {is : List Item} {W T : List Packet} :
      body.length < 16777216 → Rendered v gz codec env (k + 1) is W T →
      Rendered v gz codec env k (.hbReq rid body :: is) (pingPacket codec (env.reqId k) body :: W) (pingPacket codec rid body :: T)
  | hbResp {k : Nat} {rid : UInt32} {status : UInt8} {body : Bytes} {is : List Item} {W T : List Packet} :
      body.length < 16777216 → Rendered v gz codec env k is W T →
      Rendered v gz codec env k (.hbResp rid status body :: is) (pongPacket codec env.hbId body :: W)
        (respPacket codec rid status body :: T)

theorem rendered_exists {v : Ver} {gz : GzOracle} (codec : UInt8) (env : Env) {items : List Item}
    (hok : ∀ i ∈ items, i.Ok v gz) (k : Nat) : ∃ W T, Rendered v gz codec env k items W T := by
  induction items generalizing k with
  | nil => exact ⟨[], [], .nil k⟩
  | cons i is ih =>
    have hi := hok i (by simp)
    have ih' := ih (fun j hj => hok j (by simp [hj]))
    cases i with
    | data f =>
      obtain ⟨content, ps, hv⟩ := hi
      obtain ⟨W, T, h⟩ := ih' k
      exact ⟨_, _, .data ⟨content, ps, hv, rfl⟩ h⟩
    | hbReq rid body =>
      obtain ⟨W, T, h⟩ := ih' (k + 1)
      exact ⟨_, _, .hbReq hi h⟩
    | hbResp rid status body =>
      obtain ⟨W, T, h⟩ := ih' k
      exact ⟨_, _, .hbResp hi h⟩

/-- the WebSocket reader on the script; pongs have to be writable only if the script contains a ping at all -/
theorem rendered_ws {v : Ver} {gz : GzOracle} {codec : UInt8} {env : Env}
    {k : Nat} {items : List Item} {W T : List Packet} (h : Rendered v gz codec env k items W T)
    (hpong : ∀ j rid body, Item.hbReq rid body ∈ items → env.pongOk j = true)
    (s : WSt) (hs : s.stopped = none) (hk : s.pings = k) :
    (items.map (Item.ws v)).foldl (step v gz codec env) s =
      { s with pkts := s.pkts ++ W, pongs := s.pongs ++ pingBodies items, pings := k + (pingBodies items).length } := by
  induction h generalizing s with
  | nil k => simp [pingBodies, ← hk]
  | @data k f q is W T hd _ ih =>
    rw [List.map_cons, List.foldl_cons, Item.ws, step_binary_ok hs hd.oneshot,
      ih (fun j r b hm => hpong j r b (List.mem_cons_of_mem _ hm)) { s with pkts := s.pkts ++ [q] } hs hk]
    simp [pingBodies]
  | @hbReq k rid body is W T hb _ ih =>
    rw [List.map_cons, List.foldl_cons, Item.ws, step_ping hs (hpong _ rid body List.mem_cons_self),
      ih (fun j r b hm => hpong j r b (List.mem_cons_of_mem _ hm)) { s with pongs := _, pkts := _, pings := s.pings + 1 } hs
        (by simp [hk])]
    simp [pingBodies, hk]; omega
  | @hbResp k rid status body is W T hb _ ih =>
    rw [List.map_cons, List.foldl_cons, Item.ws, step_pong hs,
      ih (fun j r b hm => hpong j r b (List.mem_cons_of_mem _ hm)) { s with pkts := s.pkts ++ [pongPacket codec env.hbId body] }
        hs hk]
    simp [pingBodies]

theorem rendered_tcp {v : Ver} {gz : GzOracle} {codec : UInt8} {env : Env}
    {k : Nat} {items : List Item} {W T : List Packet} (h : Rendered v gz codec env k items W T) :
    Forall₂ (Denotes v gz codec) (items.map Item.tcp) T := by
  induction h with
  | nil k => exact .nil
  | data hd _ ih => exact .cons hd ih
  | hbReq hb _ ih => exact .cons (hbReq_denotes v gz codec _ _ hb) ih
  | hbResp hb _ ih => exact .cons (hbResp_denotes v gz codec _ _ _ hb) ih

/-- how a packet delivered over WebSocket (`w`) relates to the packet delivered over TCP (`t`) for the same step of the
script: identical, or a heartbeat request that differs in the request id only, or a heartbeat response whose request id
and status come from the payload / are 0 instead of from the frame header — every other field (type, command, codec,
body, timeout, verify, gzip, nonce, signature, metadata values) is the same -/
def SamePacket (hbId : Bytes → Option UInt32) (w t : Packet) : Prop :=
  w = t ∨
  (t.type = .request ∧ t.cmd = cmdHeartbeat ∧ w = { t with rid := w.rid }) ∨
  (t.type = .response ∧ t.cmd = cmdHeartbeat ∧ w = { t with rid := (hbId t.body).getD 0, status := 0 })

theorem rendered_same {v : Ver} {gz : GzOracle} {codec : UInt8} {env : Env}
    {k : Nat} {items : List Item} {W T : List Packet} (h : Rendered v gz codec env k items W T) :
    Forall₂ (SamePacket env.hbId) W T := by
  induction h with
  | nil k => exact .nil
  | data hd _ ih => exact .cons (.inl rfl) ih
  | hbReq hb _ ih => exact .cons (.inr (.inl ⟨rfl, rfl, rfl⟩)) ih
  | hbResp hb _ ih => exact .cons (.inr (.inr ⟨rfl, rfl, rfl⟩)) ih

/-- a script is GENUINE when every heartbeat answer has status 0 and carries in its body the id that the TCP frame
carries in its header (what a peer echoing the client's heartbeat sends) and there are no peer heartbeats -/
def Item.Genuine (hbId : Bytes → Option UInt32) : Item → Prop
  | .data _ => True
  | .hbReq _ _ => False
  | .hbResp rid status body => status = 0 ∧ hbId body = some rid

theorem rendered_genuine {v : Ver} {gz : GzOracle} {codec : UInt8} {env : Env}
    {k : Nat} {items : List Item} {W T : List Packet} (h : Rendered v gz codec env k items W T)
    (hg : ∀ i ∈ items, i.Genuine env.hbId) : W = T := by
  induction h with
  | nil k => rfl
  | data hd _ ih => rw [ih (fun j hj => hg j (by simp [hj]))]
  | @hbReq k rid body is W T hb _ ih => exact (hg (.hbReq rid body) (by simp)).elim
  | @hbResp k rid status body is W T hb _ ih =>
    obtain ⟨h1, h2⟩ : status = 0 ∧ env.hbId body = some rid := hg (.hbResp rid status body) (by simp)
    rw [ih (fun j hj => hg j (by simp [hj])), pongPacket_eq_resp, h1, h2]
    rfl

/-- both readers on a script, named by one `Rendered` derivation: the WebSocket reader's final state, and what the TCP
reader has delivered after the script's frames and any further valid frames `extra` -/
theorem script_core {v : Ver} {gz : GzOracle} (codec : UInt8) (env : Env)
    {items : List Item} (hok : ∀ i ∈ items, i.Ok v gz)
    (hpong : ∀ j rid body, Item.hbReq rid body ∈ items → env.pongOk j = true) :
    ∃ W T, Rendered v gz codec env 0 items W T ∧
      reading v gz codec env (items.map (Item.ws v)) =
        { pkts := W, pongs := pingBodies items, pings := (pingBodies items).length } ∧
      ∀ (extra : List Spec.Frame) (qs : List Packet), Forall₂ (Denotes v gz codec) extra qs →
        ∀ (rb0 : Ring), rb0.WF → rb0.abs = [] → ∀ (chunks : List Bytes),
          chunks.flatten = ((items.map Item.tcp ++ extra).map (Spec.encode v)).flatten →
          (Reading.reading v gz codec rb0 chunks).obs = (T ++ qs, none) := by
  obtain ⟨W, T, hr⟩ := rendered_exists codec env hok 0
  refine ⟨W, T, hr, ?_, fun extra qs hx rb0 wf he chunks hc => ?_⟩
  · have := rendered_ws hr hpong {} rfl rfl
    simpa [reading] using this
  · exact Reading.tcp_reader_frames v gz codec _ _ ((rendered_tcp hr).append hx) rb0 wf he chunks hc

/-- THE CONTROL MAPPING AT READER LEVEL. A peer script — data frames, peer heartbeats, answers to the client's
heartbeats, in any order — sent over WebSocket (binary messages, ping and pong control frames) and over TCP (frames on
the byte stream, cut into socket reads in ANY way): both readers stay open, deliver the same NUMBER of packets in the
same order, and the i-th packets are `SamePacket`. The pongs written back are the ping payloads, in order. -/
theorem ws_script_eq_tcp (v : Ver) (gz : GzOracle) (codec : UInt8) (env : Env) (hpong : ∀ k, env.pongOk k = true)
    (items : List Item) (hok : ∀ i ∈ items, i.Ok v gz)
    (rb0 : Ring) (wf : rb0.WF) (he : rb0.abs = [])
    (chunks : List Bytes) (hc : chunks.flatten = ((items.map Item.tcp).map (Spec.encode v)).flatten) :
    Forall₂ (SamePacket env.hbId) (reading v gz codec env (items.map (Item.ws v))).pkts
      (Reading.reading v gz codec rb0 chunks).pkts ∧
    (reading v gz codec env (items.map (Item.ws v))).stopped = none ∧
    (Reading.reading v gz codec rb0 chunks).stopped = none ∧
    (reading v gz codec env (items.map (Item.ws v))).pongs = pingBodies items := by
  obtain ⟨W, T, hr, hw, ht⟩ := script_core codec env hok (fun j _ _ _ => hpong j)
  have ht := ht [] [] .nil rb0 wf he chunks (by simpa using hc)
  simp only [Reading.RSt.obs, List.append_nil, Prod.mk.injEq] at ht
  rw [hw, ht.1]
  exact ⟨rendered_same hr, rfl, ht.2, rfl⟩

/-- … and for a GENUINE script the delivered packet lists are EQUAL -/
theorem ws_script_eq_tcp_genuine (v : Ver) (gz : GzOracle) (codec : UInt8) (env : Env)
    (items : List Item) (hok : ∀ i ∈ items, i.Ok v gz) (hg : ∀ i ∈ items, i.Genuine env.hbId)
    (rb0 : Ring) (wf : rb0.WF) (he : rb0.abs = [])
    (chunks : List Bytes) (hc : chunks.flatten = ((items.map Item.tcp).map (Spec.encode v)).flatten) :
    (reading v gz codec env (items.map (Item.ws v))).obs = ((Reading.reading v gz codec rb0 chunks).pkts, none) ∧
    (Reading.reading v gz codec rb0 chunks).stopped = none := by
  obtain ⟨W, T, hr, hw, ht⟩ := script_core codec env hok (fun _ _ _ hm => (hg _ hm).elim)
  have ht := ht [] [] .nil rb0 wf he chunks (by simpa using hc)
  simp only [Reading.RSt.obs, List.append_nil, Prod.mk.injEq] at ht
  rw [hw, ht.1, ← rendered_genuine hr hg]
  exact ⟨rfl, ht.2⟩

/-- CLOSE AT READER LEVEL. After a script that left both readers open, the peer closes: over WebSocket with a close
control frame (code, reason), over TCP with the close FRAME whose body is the same `control.Close` marshalled with the
same codec. Both readers deliver one more packet, THE SAME close packet. The WebSocket reader then ends with the close
error at once; the TCP reader is still reading (it ends when the client, handling the close packet, closes the conn). -/
theorem ws_close_eq_tcp (v : Ver) (gz : GzOracle) (codec : UInt8) (env : Env) (hpong : ∀ k, env.pongOk k = true)
    (items : List Item) (hok : ∀ i ∈ items, i.Ok v gz) (code : Nat) (reason b : Bytes)
    (hb : env.closeBody code reason = .ok b) (hbl : b.length < 16777216) (post : List WsEvent)
    (rb0 : Ring) (wf : rb0.WF) (he : rb0.abs = [])
    (chunks : List Bytes)
    (hc : chunks.flatten = (((items.map Item.tcp) ++ [closeFrame b]).map (Spec.encode v)).flatten) :
    ∃ W T, Forall₂ (SamePacket env.hbId) W T ∧
      (reading v gz codec env (items.map (Item.ws v) ++ .close code reason :: post)).obs =
        (W ++ [closePacket codec b], some (.peerClose code reason)) ∧
      (Reading.reading v gz codec rb0 chunks).obs = (T ++ [closePacket codec b], none) := by
  obtain ⟨W, T, hr, hw, ht⟩ := script_core codec env hok (fun j _ _ _ => hpong j)
  refine ⟨W, T, rendered_same hr, ?_,
    ht [closeFrame b] _ (.cons (close_denotes v gz codec b hbl) .nil) rb0 wf he chunks hc⟩
  have e1 : step v gz codec env (reading v gz codec env (items.map (Item.ws v))) (.close code reason) = _ :=
    step_close (by rw [hw]) hb
  rw [reading_stops_at e1 rfl post, hw]
  rfl

end OAP.WsReading
