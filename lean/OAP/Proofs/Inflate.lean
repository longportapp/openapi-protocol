/-
Proofs about the native gzip reader (`OAP.Inflate`): the stored-block compressor round-trips through it for
every input, which gives a concrete, sound instance of the gzip oracle of the frame model (`nativeGz`, used in C10); what the reader
delivers is at most 1032 times what it was given, and the fuel of none of its three data-driven loops (blocks, symbols, members)
is ever the reason for a failure. The last two rest on one measure of the unread input (`μ`), followed along each function's own
induction principle. Not treated: the count-down of `readCodeLengths` (one more than the number of lengths to read) and the
15-bit limit of `decodeAux`, which is the format's.
-/
import OAP.Model.Inflate
import OAP.Model.Frame
import OAP.Proofs.BigEndian
namespace OAP.Inflate
open OAP

theorem rd32le_le32 (x : UInt32) :
    rd32le x.toUInt8 (x >>> (8 : UInt32)).toUInt8 (x >>> (16 : UInt32)).toUInt8 (x >>> (24 : UInt32)).toUInt8 = x :=
  be32_rd32 x

theorem rd16le_le16 (n : Nat) (h : n ≤ 65535) :
    rd16le (n % 256).toUInt8 (n / 256 % 256).toUInt8 = n := by
  unfold rd16le
  simp
  omega

theorem storedBlock_enc (x tl : Bytes) (out : Array UInt8) (h : x.length ≤ 65535) :
    storedBlock (le16 x.length ++ (le16 (65535 - x.length) ++ (x ++ tl))) out = (out ++ x, some tl) := by
  simp only [le16, List.cons_append, List.nil_append, storedBlock]
  rw [rd16le_le16 _ h, rd16le_le16 _ (by omega)]
  simp
  omega

theorem inflateLoop_stored (sf fuel : Nat) (final : Bool) (x tl : Bytes) (out : Array UInt8) (h : x.length ≤ 65535) :
    inflateLoop sf (fuel + 1) ⟨storedBlockEnc final x ++ tl, 0⟩ out =
      if final then (out ++ x, some tl) else inflateLoop sf fuel ⟨tl, 0⟩ (out ++ x) := by
  cases final <;>
    simp [storedBlockEnc, inflateLoop, BitReader.readBits, BitReader.readBit, block, BitReader.align, storedBlock_enc x tl out h]

theorem length_storedBlocks_ge (n : Nat) (x : Bytes) : x.length ≤ (storedBlocks n x).length := by
  fun_induction storedBlocks n x <;> simp_all [storedBlockEnc, le16] <;> omega

theorem appendList_take_drop (out : Array UInt8) (x : Bytes) (k : Nat) : out ++ x.take k ++ x.drop k = out ++ x := by
  apply Array.toList_inj.mp
  simp

theorem inflateLoop_storedBlocks (sf n : Nat) (x tl : Bytes) (out : Array UInt8) (fuel : Nat)
    (hf : n < fuel) (hx : x.length ≤ (n + 1) * 65535) :
    inflateLoop sf fuel ⟨storedBlocks n x ++ tl, 0⟩ out = (out ++ x, some tl) := by
  fun_induction storedBlocks n x generalizing out fuel <;>
    obtain ⟨fuel, rfl⟩ : ∃ f, fuel = f + 1 := ⟨fuel - 1, by omega⟩
  · next x => simp [inflateLoop_stored, (by omega : x.length ≤ 65535)]
  · next hs => simp [inflateLoop_stored, hs]
  · next hs ih =>
    rw [List.append_assoc, inflateLoop_stored _ _ _ _ _ _ (List.length_take_le _ _)]
    simp only [Bool.false_eq_true, ↓reduceIte]
    rw [ih _ _ (by omega) (by rw [List.length_drop]; omega), appendList_take_drop]

theorem inflateCore_storedDeflate (x tl : Bytes) :
    inflateCore (storedDeflate x ++ tl) = ((#[] : Array UInt8) ++ x, some tl) := by
  unfold inflateCore storedDeflate
  apply inflateLoop_storedBlocks
  · have := length_storedBlocks_ge (x.length / 65535) x
    simp only [fuelFor, List.length_append]
    omega
  · have := Nat.lt_div_mul_add (a := x.length) (b := 65535) (by omega)
    rw [Nat.add_mul]; omega

theorem inflate_storedDeflate (x tl : Bytes) : inflate (storedDeflate x ++ tl) = some (x, tl) := by
  simp [inflate, inflateCore_storedDeflate]

theorem crc32A_eq (a : Array UInt8) : crc32A a = crc32 a.toList := by
  simp [crc32A, crc32, crcUpdate, Array.foldl_toList]

theorem gzHeader_plain (body : Bytes) : gzHeader (gzHeaderBytes ++ body) = some body := by
  simp [gzHeader, gzHeaderBytes, skipExtra, skipString, checkHcrc, flagSet]

theorem checkTrailer_ok (out : Array UInt8) (c n : UInt32) (rest : Bytes) (hc : c = crc32A out) (hn : n = UInt32.ofNat out.size) :
    checkTrailer out (le32 c ++ le32 n ++ rest) = .ok out rest := by
  simp only [checkTrailer, le32, List.cons_append, List.nil_append, rd32le_le32]
  simp [hc, hn]

theorem gzMember_storedGzip (x rest : Bytes) : gzMember (storedGzip x ++ rest) = .ok ((#[] : Array UInt8) ++ x) rest := by
  have e : storedGzip x ++ rest =
      gzHeaderBytes ++ (storedDeflate x ++ (le32 (crc32 x) ++ le32 (UInt32.ofNat x.length) ++ rest)) := by
    simp [storedGzip]
  rw [e, gzMember, gzHeader_plain]
  simp only [inflateCore_storedDeflate]
  exact checkTrailer_ok _ _ _ _ (by simp [crc32A_eq]) (by simp)

theorem gunzipMember_storedGzip (x rest : Bytes) : gunzipMember (storedGzip x ++ rest) = some (x, rest) := by
  simp [gunzipMember, gzMember_storedGzip]

/-- MAIN THEOREM: the native reader accepts the native compressor's stream for every input and returns that input -/
theorem gunzip_storedGzip (x : Bytes) : gunzip (storedGzip x) = some (x, true) := by
  have h := gzMember_storedGzip x []
  rw [List.append_nil] at h
  simp [gunzip, h]

/-- Go's `compress/gzip` made concrete: the stored-block compressor and the native reader -/
def nativeGz : GzOracle := { compress := fun x => .ok (storedGzip x), read := gunzip }

theorem nativeGz_sound : nativeGz.Sound := fun x => by simp [nativeGz, gunzip_storedGzip]

/-- unread bits: `BitReader.remBits` with `bit` capped at 7. `readBit` treats every `bit ≥ 7` as the last bit of the head
byte, so with the cap each successful `readBit` takes exactly one, whatever `bit` holds, and no invariant `bit < 8` has
to be carried through the readers -/
def μ (br : BitReader) : Nat := 8 * br.data.length - min br.bit 7

theorem μ_start (bs : Bytes) : μ ⟨bs, 0⟩ = 8 * bs.length := by simp [μ]

theorem readBit_μ {br br' : BitReader} {v : Nat} (h : br.readBit = some (v, br')) : μ br' + 1 = μ br ∧ v < 2 := by
  obtain ⟨d, k⟩ := br
  cases d with
  | nil => simp [BitReader.readBit] at h
  | cons b rest =>
    simp only [BitReader.readBit] at h
    split at h <;> cases h <;> simp only [μ, List.length_cons] <;> omega

theorem readBits_μ {n : Nat} {br br' : BitReader} {v : Nat} (h : br.readBits n = some (v, br')) :
    μ br' + n = μ br ∧ v < 2 ^ n := by
  fun_induction BitReader.readBits n br generalizing v br' with
  | case1 br => cases h; simp
  | case2 | case3 => cases h
  | case4 n br b br1 hb v2 br2 h2 ih =>
    cases h
    have := readBit_μ hb
    have := ih h2
    rw [Nat.pow_succ]; omega

theorem decodeAux_μ (hf : Huff) {fuel len code first index : Nat} {br br' : BitReader} {s : Nat}
    (h : decodeAux hf fuel len code first index br = some (s, br')) : μ br' + 1 ≤ μ br := by
  fun_induction decodeAux hf fuel len code first index br with
  | case1 | case2 => cases h
  | case3 _ _ _ _ _ _ b br1 hb => cases h; have := readBit_μ hb; omega
  | case4 _ _ _ _ _ _ b br1 hb _ _ _ ih => have := readBit_μ hb; have := ih h; omega

theorem decodeSym_μ {hf : Huff} {br br' : BitReader} {s : Nat} (h : decodeSym hf br = some (s, br')) :
    μ br' + 1 ≤ μ br := decodeAux_μ hf h

theorem lenTable_bound (i : Nat) : lenBase.getD i 0 + 2 ^ (lenExtra.getD i 0) ≤ 259 := by
  by_cases h : i < 29
  · exact (by decide +kernel : ∀ j, j < 29 → lenBase.getD j 0 + 2 ^ (lenExtra.getD j 0) ≤ 259) i h
  · simp [Array.getD, lenBase, lenExtra, h]

theorem readLenDist_μ {dist : Huff} {sym len d : Nat} {br br' : BitReader}
    (h : readLenDist dist sym br = some (len, d, br')) : μ br' + 1 ≤ μ br ∧ len ≤ 258 := by
  have hl := lenTable_bound (sym - 257)
  revert h
  fun_cases readLenDist dist sym br <;> simp only [reduceCtorEq, false_imp_iff, Option.some.injEq, Prod.mk.injEq]
  all_goals rintro ⟨rfl, -, rfl⟩
  · next _ _ h1 _ _ _ h2 _ => have := readBits_μ h1; have := decodeSym_μ h2; omega
  · next _ _ h1 _ _ _ h2 _ _ _ _ _ h3 => have := readBits_μ h1; have := decodeSym_μ h2; have := readBits_μ h3; omega

theorem size_copyMatch (n d : Nat) (out : Array UInt8) : (copyMatch n d out).size = out.size + n := by
  fun_induction copyMatch n d out <;> simp_all <;> omega

/-- unread bits of an optional reader (`none`: the block failed) -/
def μo : Option BitReader → Nat
  | some br => μ br
  | none => 0

/-- one compressed block only advances the reader, and `out.size + 129 * (unread bits)` never grows — a match adds at
most 258 bytes and costs at least two bits (its length symbol and its distance symbol), a literal one byte for at least one bit -/
theorem huffBlock_pot (lit dist : Huff) (fuel : Nat) (br : BitReader) (out : Array UInt8) :
    μo (huffBlock lit dist fuel br out).2 ≤ μ br ∧
    (huffBlock lit dist fuel br out).1.size + 129 * μo (huffBlock lit dist fuel br out).2 ≤ out.size + 129 * μ br := by
  fun_induction huffBlock lit dist fuel br out with
  | case1 | case2 | case5 | case6 => simp [μo]
  | case4 _ _ _ _ h1 => have := decodeSym_μ h1; simp only [μo]; omega
  | case3 _ _ _ _ _ h1 _ ih => have := decodeSym_μ h1; rw [Array.size_push] at ih; omega
  | case7 _ _ _ _ _ h1 _ _ _ _ _ h2 _ ih =>
    have := decodeSym_μ h1; have := readLenDist_μ h2; rw [size_copyMatch] at ih; omega

theorem readFields_μ {w n : Nat} {br br' : BitReader} {vs : List Nat} (h : readFields w n br = some (vs, br')) :
    μ br' ≤ μ br := by
  fun_induction readFields w n br generalizing vs br' with
  | case1 => cases h; exact Nat.le_refl _
  | case2 | case3 => cases h
  | case4 _ _ _ _ h1 _ _ h2 ih => cases h; have := readBits_μ h1; have := ih h2; omega

theorem readCodeLengths_μ {clh : Huff} {n fuel : Nat} {br br' : BitReader} {acc lens : Array Nat}
    (h : readCodeLengths clh n fuel br acc = some (lens, br')) : μ br' ≤ μ br := by
  fun_induction readCodeLengths clh n fuel br acc <;> grind [→ decodeSym_μ, → readBits_μ]

theorem readDynamic_μ {br br' : BitReader} {lit dist : Huff} (h : readDynamic br = some (lit, dist, br')) :
    μ br' ≤ μ br := by
  revert h
  fun_cases readDynamic br <;> grind [→ readBits_μ, → readFields_μ, → readCodeLengths_μ]

theorem align_le (br : BitReader) : 8 * br.align.length ≤ μ br := by
  simp only [BitReader.align, μ]
  split <;> simp only [*, List.length_drop] <;> omega

/-- unread bytes of an optional rest (`none`: failure) -/
def restLen : Option Bytes → Nat
  | some r => r.length
  | none => 0

theorem storedBlock_pot (bs : Bytes) (out : Array UInt8) :
    restLen (storedBlock bs out).2 ≤ bs.length ∧
    (storedBlock bs out).1.size + restLen (storedBlock bs out).2 ≤ out.size + bs.length := by
  fun_cases storedBlock bs out <;> simp +zetaDelta [restLen, ← Array.length_toList] <;> omega

theorem block_pot (sf typ : Nat) (br : BitReader) (out : Array UInt8) :
    μo (block sf typ br out).2 ≤ μ br ∧
    (block sf typ br out).1.size + 129 * μo (block sf typ br out).2 ≤ out.size + 129 * μ br := by
  fun_cases block sf typ br out with
  | case1 _ _ _ hs | case2 _ _ hs =>
    have := align_le br
    have := storedBlock_pot br.align out
    simp only [hs, restLen] at this
    simp only [μo, μ_start]; omega
  | case3 => exact huffBlock_pot ..
  | case5 _ _ _ lit dist br1 h1 => have := readDynamic_μ h1; have := huffBlock_pot lit dist sf br1 out; omega
  | case4 | case6 => simp [μo]

/-- 1032 = 8 · 129: bytes left unread against bits at hand -/
theorem inflateLoop_pot (sf fuel : Nat) (br : BitReader) (out : Array UInt8) :
    (inflateLoop sf fuel br out).1.size + 1032 * restLen (inflateLoop sf fuel br out).2 ≤ out.size + 129 * μ br := by
  fun_induction inflateLoop sf fuel br out with
  | case1 | case2 => simp [restLen]
  | case3 _ _ out v br1 h1 _ hb =>
    have := readBits_μ h1; have := block_pot sf (v / 2) br1 out
    simp only [hb, μo] at this; simp only [restLen]; omega
  | case4 _ _ out v br1 h1 _ br2 hb _ =>
    have := readBits_μ h1; have := align_le br2; have := block_pot sf (v / 2) br1 out
    simp only [hb, μo] at this; simp only [restLen]; omega
  | case5 _ _ out v br1 h1 _ br2 hb _ ih =>
    have := readBits_μ h1; have := block_pot sf (v / 2) br1 out
    simp only [hb, μo] at this; omega

/-- OUTPUT BOUND: a deflate stream expands at most 1032 times (258 bytes per 2 bits); this also bounds what a
malformed stream outputs before it is rejected -/
theorem inflateCore_bound (bs : Bytes) :
    (inflateCore bs).1.size + 1032 * restLen (inflateCore bs).2 ≤ 1032 * bs.length := by
  have := inflateLoop_pot (fuelFor bs.length) (fuelFor bs.length) ⟨bs, 0⟩ #[]
  rw [μ_start, Array.size_empty] at this
  unfold inflateCore; omega

theorem inflate_bound {bs out rest : Bytes} (h : inflate bs = some (out, rest)) :
    out.length + 1032 * rest.length ≤ 1032 * bs.length := by
  have hb := inflateCore_bound bs
  unfold inflate at h
  split at h
  · rename_i o r hc
    cases h
    simpa [hc, restLen] using hb
  · cases h

/-! ### The fuel never runs out

Each loop gives the same result for any two fuels above its measure. The three proofs (`huffBlock_fuel`, `inflateLoop_fuel`,
`gunzipMore_fuel_of_lt`) have one shape: along the induction principle of the call with the first fuel the second fuel is a
successor too, both sides take the same branch, and what is left are the recursive calls, which start with less at hand. -/

theorem huffBlock_fuel (lit dist : Huff) {f1 f2 : Nat} {br : BitReader} {out : Array UInt8}
    (h1 : μ br < f1) (h2 : μ br < f2) : huffBlock lit dist f1 br out = huffBlock lit dist f2 br out := by
  fun_induction huffBlock lit dist f1 br out generalizing f2 <;> cases f2 <;> try omega
  all_goals rw [huffBlock]; simp only [*, ↓reduceIte]
  · next hd _ ih _ => have := decodeSym_μ hd; exact ih (by omega) (by omega)
  · next hd _ _ _ _ _ hl _ ih _ => have := decodeSym_μ hd; have := readLenDist_μ hl; exact ih (by omega) (by omega)

theorem block_fuel {sf1 sf2 typ : Nat} {br : BitReader} {out : Array UInt8}
    (h1 : μ br < sf1) (h2 : μ br < sf2) : block sf1 typ br out = block sf2 typ br out := by
  fun_cases block sf1 typ br out <;> simp [block, *]
  · exact huffBlock_fuel _ _ h1 h2
  · next hd => have := readDynamic_μ hd; exact huffBlock_fuel _ _ (by omega) (by omega)

theorem inflateLoop_fuel {f1 f2 sf1 sf2 : Nat} {br : BitReader} {out : Array UInt8}
    (h1 : μ br < f1) (h2 : μ br < f2) (hs1 : μ br < sf1) (hs2 : μ br < sf2) :
    inflateLoop sf1 f1 br out = inflateLoop sf2 f2 br out := by
  fun_induction inflateLoop sf1 f1 br out generalizing f2 <;> cases f2 <;> try omega
  all_goals rw [inflateLoop]; simp only [*]
  all_goals
    have := readBits_μ ‹BitReader.readBits 3 _ = _›
    rw [← block_fuel (sf1 := sf1) (by omega) (by omega)]
    simp only [*, ↓reduceIte]
  next out v br1 _ _ br2 hb _ ih _ =>
  have := (block_pot sf1 (v / 2) br1 out).1
  simp only [hb, μo] at this
  exact ih (by omega) (by omega) (by omega) (by omega)

/-- TOTALITY IN SUBSTANCE: the fuel `inflateCore` passes (one more than the number of input bits, for the block loop
and for the symbol loop) is never the reason for a failure — any larger fuel gives the same result, because every
block costs at least 3 bits and every symbol at least 1 -/
theorem inflateCore_fuel (bs : Bytes) (f sf : Nat) (hf : fuelFor bs.length ≤ f) (hs : fuelFor bs.length ≤ sf) :
    inflateLoop sf f ⟨bs, 0⟩ #[] = inflateCore bs := by
  have : μ ⟨bs, 0⟩ < fuelFor bs.length := by rw [μ_start]; simp [fuelFor]
  exact inflateLoop_fuel (by omega) (by omega) (by omega) (by omega)

theorem skipCString_length {n : Nat} {bs r : Bytes} (h : skipCString n bs = some r) : r.length < bs.length := by
  fun_induction skipCString n bs <;> simp_all <;> omega

theorem skipString_length {flg : UInt8} {bit : Nat} {bs r : Bytes} (h : skipString flg bit bs = some r) :
    r.length ≤ bs.length := by
  grind [skipString, → skipCString_length]

theorem skipExtra_length {flg : UInt8} {bs r : Bytes} (h : skipExtra flg bs = some r) : r.length ≤ bs.length := by
  revert h; fun_cases skipExtra flg bs <;> grind

theorem checkHcrc_length {flg : UInt8} {all bs r : Bytes} (h : checkHcrc flg all bs = some r) : r.length ≤ bs.length := by
  revert h; fun_cases checkHcrc flg all bs <;> grind

theorem gzHeader_length {bs body : Bytes} (h : gzHeader bs = some body) : body.length + 10 ≤ bs.length := by
  revert h
  fun_cases gzHeader bs <;> (try simp only [List.length_cons]) <;>
    grind [→ skipExtra_length, → skipString_length, → checkHcrc_length]

theorem checkTrailer_spec (out : Array UInt8) (bs : Bytes) :
    checkTrailer out bs = .bodyErr out ∨ ∃ r, checkTrailer out bs = .ok out r ∧ r.length + 8 = bs.length := by
  fun_cases checkTrailer out bs <;> simp

/-- a member expands at most 1032 times, also when it fails after delivering something; a valid one takes at
least 18 bytes (header 10, trailer 8) that yield no output -/
theorem gzMember_pot (bs : Bytes) :
    match gzMember bs with
    | .hdrErr => True
    | .bodyErr o => o.size ≤ 1032 * bs.length
    | .ok o r => o.size + 1032 * (r.length + 18) ≤ 1032 * bs.length := by
  fun_cases gzMember bs with
  | case1 => trivial
  | case2 body hh out hc =>
    have := gzHeader_length hh; have := inflateCore_bound body
    simp only [hc, restLen] at this ⊢; omega
  | case3 body hh out rest hc =>
    have := gzHeader_length hh; have := inflateCore_bound body
    simp only [hc, restLen] at this
    obtain h | ⟨r, h, _⟩ := checkTrailer_spec out rest <;> simp only [h] <;> omega

theorem gunzipMore_pot (fuel : Nat) (bs : Bytes) (acc : Array UInt8) :
    (gunzipMore fuel bs acc).1.size ≤ acc.size + 1032 * bs.length := by
  fun_induction gunzipMore fuel bs acc with
  | case1 | case2 => simp
  | case3 _ bs _ _ hm | case4 _ bs _ _ _ hm | case5 _ bs _ _ _ hm _ ih =>
    have := gzMember_pot bs
    simp only [hm] at this
    simp only [Array.size_append] at *; omega

/-- OUTPUT BOUND for the gzip reader (all members together, also the prefix delivered before an error) -/
theorem gunzip_bound {bs p : Bytes} {b : Bool} (h : gunzip bs = some (p, b)) : p.length ≤ 1032 * bs.length := by
  have hm := gzMember_pot bs
  revert h
  fun_cases gunzip bs with
  | case1 => simp
  | case2 _ hx | case3 _ _ hx _ =>
    simp only [hx] at hm; rintro ⟨⟩; simp only [Array.length_toList]; omega
  | case4 out rest hx _ r =>
    have := gunzipMore_pot bs.length rest out
    simp only [hx] at hm; rintro ⟨⟩; simp only [Array.length_toList, r]; omega

theorem gunzipMore_fuel_of_lt {f1 f2 : Nat} {bs : Bytes} {acc : Array UInt8}
    (h1 : bs.length < 18 * f1) (h2 : bs.length < 18 * f2) : gunzipMore f1 bs acc = gunzipMore f2 bs acc := by
  fun_induction gunzipMore f1 bs acc generalizing f2 <;> cases f2 <;> try omega
  all_goals rw [gunzipMore]; simp only [*, ↓reduceIte]
  next bs _ _ rest hm _ ih _ =>
  have := gzMember_pot bs
  simp only [hm] at this
  exact ih (by omega) (by omega)

/-- the member loop's fuel (the input length) is never the reason for a failure: every member takes at least 18 bytes -/
theorem gunzipMore_fuel : ∀ (f1 f2 : Nat) {bs : Bytes} {acc : Array UInt8}, bs.length ≤ f1 → bs.length ≤ f2 → bs ≠ [] →
    gunzipMore f1 bs acc = gunzipMore f2 bs acc := by
  intro f1 f2 bs acc h1 h2 hne
  have := List.length_pos_iff.mpr hne
  exact gunzipMore_fuel_of_lt (by omega) (by omega)

section Examples

example : crc32 [] = 0 := by decide
/-- the check value of CRC-32/ISO-HDLC: "123456789" -/
example : crc32 [0x31, 0x32, 0x33, 0x34, 0x35, 0x36, 0x37, 0x38, 0x39] = 0xCBF43926 := by decide +kernel

/-- the native compressor's stream for "hello" -/
example : storedGzip [0x68, 0x65, 0x6c, 0x6c, 0x6f] =
    [0x1f, 0x8b, 0x08, 0x00, 0x00, 0x00, 0x00, 0x00, 0x00, 0xff, 0x01, 0x05, 0x00, 0xfa, 0xff,
     0x68, 0x65, 0x6c, 0x6c, 0x6f, 0x86, 0xa6, 0x10, 0x36, 0x05, 0x00, 0x00, 0x00] := by decide +kernel
example : storedGzip [] =
    [0x1f, 0x8b, 0x08, 0x00, 0x00, 0x00, 0x00, 0x00, 0x00, 0xff, 0x01, 0x00, 0x00, 0xff, 0xff, 0, 0, 0, 0, 0, 0, 0, 0] := by
  decide +kernel

def helloText : Bytes := [0x68, 0x65, 0x6c, 0x6c, 0x6f, 0x20, 0x68, 0x65, 0x6c, 0x6c, 0x6f, 0x20, 0x68, 0x65, 0x6c, 0x6c, 0x6f, 0x20, 0x68, 0x65, 0x6c, 0x6c, 0x6f]

/-- `printf 'hello hello hello hello' | gzip -9n`: one fixed-Huffman block with a match (length 17, distance 6) -/
def fixedStream : Bytes := [0x1f, 0x8b, 0x08, 0x00, 0x00, 0x00, 0x00, 0x00, 0x02, 0x03, 0xcb, 0x48, 0xcd, 0xc9, 0xc9, 0x57, 0xc8, 0x40, 0x27, 0x01, 0xe3, 0x51, 0x3d, 0x8d, 0x17, 0x00, 0x00, 0x00]

/-- The vectors below that go through the fixed Huffman code, in ONE kernel evaluation: evaluated one by one, each builds
the table `fixedLit` from `fixedLitLens` again (`countLens`: 288 `Array.modify` steps), which costs as much as all
eleven vectors together once it is there. What each vector tests is said at the `example` that cites it. -/
theorem fixedHuffman_vectors :
    gunzip fixedStream = some (helloText, true) ∧
    gunzipMember fixedStream = some (helloText, []) ∧
    gunzip [0x1f, 0x8b, 0x08, 0x00, 0x00, 0x00, 0x00, 0x00, 0x02, 0x03, 0xcb, 0x48, 0xcd, 0xc9, 0xc9, 0x57, 0xc8, 0x40, 0x27, 0x01, 0xe2, 0x51, 0x3d, 0x8d, 0x17, 0x00, 0x00, 0x00] = some (helloText, false) ∧
    gunzip [0x1f, 0x8b, 0x08, 0x00, 0x00, 0x00, 0x00, 0x00, 0x02, 0x03, 0xcb, 0x48, 0xcd, 0xc9, 0xc9, 0x57, 0xc8, 0x40, 0x27, 0x01, 0xe3, 0x51, 0x3d, 0x8d, 0x17, 0x00, 0x00, 0x01] = some (helloText, false) ∧
    gunzip (fixedStream.take 27) = some (helloText, false) ∧
    gunzip (fixedStream.take 14) = some ([0x68, 0x65, 0x6c], false) ∧
    gunzip (fixedStream.take 3 ++ [0xe0] ++ fixedStream.drop 4) = some (helloText, true) ∧
    inflate [0x03, 0x02, 0x00] = none ∧
    inflate [0x1b, 0x03, 0x00, 0x00] = none ∧
    inflate [0x4b, 0x04, 0x00, 0x00] = some ([0x61], [0x00]) ∧
    (Huff.ofLengths fixedLitLens).isSome = true := by decide +kernel

example : gunzip fixedStream = some (helloText, true) := by simp only [fixedHuffman_vectors]
example : gunzipMember fixedStream = some (helloText, []) := by simp only [fixedHuffman_vectors]

/-- a hand-made dynamic-Huffman block (HLIT = 4, HDIST = 1, HCLEN = 14; code lengths sent with the repeat codes 17/18):
literals `a`, `b`, then a match of length 6 at distance 2 -/
def dynStream : Bytes := [0x1f, 0x8b, 0x08, 0x00, 0x00, 0x00, 0x00, 0x00, 0x00, 0xff, 0x25, 0xc1, 0x41, 0x0d, 0x00, 0x00, 0x00, 0x40, 0xc0, 0xac, 0xf4, 0x0f, 0xe1, 0x61, 0x87, 0x0b, 0xe8, 0x0f, 0x83, 0x52, 0x08, 0x00, 0x00, 0x00]
example : gunzip dynStream = some ([0x61, 0x62, 0x61, 0x62, 0x61, 0x62, 0x61, 0x62], true) := by decide +kernel

/-- a wrong CRC-32 (first trailer byte flipped) or a wrong ISIZE: an error AFTER the whole content was produced -/
example : gunzip [0x1f, 0x8b, 0x08, 0x00, 0x00, 0x00, 0x00, 0x00, 0x02, 0x03, 0xcb, 0x48, 0xcd, 0xc9, 0xc9, 0x57, 0xc8, 0x40, 0x27, 0x01, 0xe2, 0x51, 0x3d, 0x8d, 0x17, 0x00, 0x00, 0x00] = some (helloText, false) := by simp only [fixedHuffman_vectors]
example : gunzip [0x1f, 0x8b, 0x08, 0x00, 0x00, 0x00, 0x00, 0x00, 0x02, 0x03, 0xcb, 0x48, 0xcd, 0xc9, 0xc9, 0x57, 0xc8, 0x40, 0x27, 0x01, 0xe3, 0x51, 0x3d, 0x8d, 0x17, 0x00, 0x00, 0x01] = some (helloText, false) := by simp only [fixedHuffman_vectors]
/-- truncated inside the trailer / inside the deflate data / inside the header -/
example : gunzip (fixedStream.take 27) = some (helloText, false) := by simp only [fixedHuffman_vectors]
example : gunzip (fixedStream.take 14) = some ([0x68, 0x65, 0x6c], false) := by simp only [fixedHuffman_vectors]
example : gunzip (fixedStream.take 9) = none := by decide +kernel
example : gunzip [] = none := by decide
/-- wrong magic, wrong compression method -/
example : gunzip (0x1e :: fixedStream.drop 1) = none := by decide +kernel
example : gunzip (fixedStream.take 2 ++ [7] ++ fixedStream.drop 3) = none := by decide +kernel
/-- the reserved FLG bits are ignored (as Go does) -/
example : gunzip (fixedStream.take 3 ++ [0xe0] ++ fixedStream.drop 4) = some (helloText, true) := by simp only [fixedHuffman_vectors]

/-- several members are concatenated; anything else after a member is an error (multistream mode, the library's usage);
the single-member reader does not look at it -/
example : gunzip (storedGzip [1, 2] ++ storedGzip [] ++ storedGzip [3]) = some ([1, 2, 3], true) := by decide +kernel
example : gunzip (storedGzip [1, 2] ++ [0]) = some ([1, 2], false) := by decide +kernel
example : gunzipFirst (storedGzip [1, 2] ++ [0]) = some ([1, 2], true) := by decide +kernel

/-- raw deflate: block type 3; LEN/NLEN mismatch; a match before any output (distance too far back);
literal/length symbol 286; an empty stored block followed by two unread bytes; a literal in a fixed block -/
example : inflate [0x07] = none := by decide +kernel
example : inflate [0x01, 0x05, 0x00, 0x00, 0x00] = none := by decide +kernel
example : inflate [0x03, 0x02, 0x00] = none := by simp only [fixedHuffman_vectors]
example : inflate [0x1b, 0x03, 0x00, 0x00] = none := by simp only [fixedHuffman_vectors]
example : inflate [0x01, 0x00, 0x00, 0xff, 0xff, 0xaa, 0xbb] = some ([], [0xaa, 0xbb]) := by decide +kernel
example : inflate [0x4b, 0x04, 0x00, 0x00] = some ([0x61], [0x00]) := by simp only [fixedHuffman_vectors]

/-- code lengths: over-subscribed and incomplete codes are rejected; the empty code and the single code of length 1 are not -/
example : (Huff.ofLengths [1, 1, 1]).isSome = false := by decide +kernel
example : (Huff.ofLengths [2, 2, 2]).isSome = false := by decide +kernel
example : (Huff.ofLengths [0, 2]).isSome = false := by decide +kernel
example : (Huff.ofLengths [0, 0]).isSome = true := by decide +kernel
example : (Huff.ofLengths [0, 1]).isSome = true := by decide +kernel
example : (Huff.ofLengths [2, 1, 3, 3]).isSome = true := by decide +kernel
example : (Huff.ofLengths fixedLitLens).isSome = true := by simp only [fixedHuffman_vectors]

end Examples

end OAP.Inflate
