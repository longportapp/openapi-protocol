/-
Proofs about the TCP reader goroutine (model: OAP/Model/Client/Reading.lean). One `Unpack` call and the reader's `readPacket` loop move
a ring by `Retrieve` / `Read` only (`Reach`); from `NewWithData(d)` these never move `w` away from 0, so
the fast path's `first, _ := buffer.PeekAll()` loses nothing (`reach_newWithData`). The reader's fuel-bounded loop is `drainRing`
(`readPacket_eq_drainRing`); hence, whatever path each read takes, the reader observes what the queue connection `feed` observes
(`rsim_step`, `reading_eq_feed`).
Definitions the property statements (C03) use: `Reach`, `RSt.unread`, `RInv`.
-/
import OAP.Model.Client.Reading
import OAP.Proofs.Ring
import OAP.Proofs.StreamRing
import OAP.Proofs.StreamComplete
namespace OAP.Reading
open OAP OAP.Frame OAP.Ring

/-- `Reach a b`: `b` is `a` after some `Retrieve(n)` / successful `Read(p)` calls (and any number of
`Peek…` / `Length` calls, which do not change the ring) — no `Write` -/
inductive Reach (a : Ring) : Ring → Prop
  | refl : Reach a a
  | retrieve {b : Ring} (n : Nat) : Reach a b → Reach a (b.retrieve n)
  | read {b c : Ring} {d : Bytes} (n : Nat) : Reach a b → b.read n = .ok (d, c) → Reach a c

theorem Reach.trans {a b c : Ring} (h1 : Reach a b) (h2 : Reach b c) : Reach a c := by
  induction h2 with
  | refl => exact h1
  | retrieve n _ ih => exact .retrieve n ih
  | read n _ hr ih => exact .read n ih hr

/-! one `Unpack` call only consumes: each function is walked once along its spine (`extract_lets` keeps the
steps apart, so that `split` takes the outer `match` and not a condition inside it), with `Reach a _` carried
from ring to ring; a failing step returns the ring it started from -/

theorem unpackRest_reach (v : Ver) (h : Header) (a rb : Ring) (hr : Reach a rb) :
    Reach a (Header.unpackRest v h rb).rb := by
  unfold Header.unpackRest
  extract_lets h0 fail rb1
  split <;> try exact hr
  have r1 : Reach a rb1 := .retrieve 1 hr
  -- steps 1 to 3: an optional field (peek, set the field, `Retrieve(n)`) or nothing
  extract_lets h1 step1
  cases e1 : step1 with
  | err | panic => exact r1
  | ok x =>
  have r2 : Reach a x.2 := by
    unfold step1 at e1
    split at e1
    · split at e1 <;> cases e1
      exact .retrieve 4 r1
    · cases e1; exact r1
  simp -zeta only
  extract_lets step2
  cases e2 : step2 with
  | err | panic => exact r2
  | ok x =>
  have r3 : Reach a x.2 := by
    unfold step2 at e2
    split at e2
    · split at e2 <;> cases e2
      exact .retrieve 2 r2
    · cases e2; exact r2
  simp -zeta only
  extract_lets step3
  cases e3 : step3 with
  | err | panic => exact r3
  | ok x =>
  have r4 : Reach a x.2 := by
    unfold step3 at e3
    split at e3
    · split at e3 <;> cases e3
      exact .retrieve 1 r3
    · cases e3; exact r3
  simp -zeta only
  -- step 4: the metadata length, by version
  extract_lets step4
  cases e4 : step4 with
  | err | panic => exact r4
  | ok x =>
  have r5 : Reach a x.2 := by
    unfold step4 at e4
    split at e4
    · cases e4; exact r4
    · split at e4 <;> cases e4
      exact .retrieve 2 r4
  simp only
  split <;> exact .retrieve 3 r5

theorem hdrUnpackRing_reach (v : Ver) (h : Header) (a rb : Ring) (hr : Reach a rb) :
    Reach a (Header.unpackRing v h rb).rb := by
  unfold Header.unpackRing
  split
  · exact hr
  split
  · exact hr
  extract_lets first
  cases e : first with
  | err | panic => exact hr
  | ok x =>
  have r1 : Reach a x.2 := by
    unfold first at e
    split at e
    · split at e <;> cases e
      exact .retrieve 1 hr
    · cases e; exact hr
  simp only
  split
  · exact r1
  split
  · exact r1
  · exact unpackRest_reach v _ a _ r1

theorem unpackBody_reach (v : Ver) (gz : GzOracle) (codec : UInt8) (h : Header) (a rb : Ring) (hr : Reach a rb) :
    Reach a (unpackBody v gz codec h rb).rb := by
  unfold unpackBody
  extract_lets ml bl len
  split
  · exact hr
  split <;> try exact hr
  next md rb1 e1 =>
  have r1 : Reach a rb1 := by
    cases v
    · cases e1; exact hr
    · exact .read _ hr e1
  split <;> try exact r1
  next body rb2 e2 =>
  have r2 := Reach.read _ r1 e2
  extract_lets p
  split <;> try exact r2
  extract_lets tr
  cases e3 : tr with
  | err | panic => exact r2
  | ok x =>
  have r3 : Reach a x.2 := by
    unfold tr at e3
    split at e3
    · split at e3 <;> try cases e3
      split at e3 <;> cases e3
      exact .read _ (.retrieve _ r2) ‹_›
    · cases e3; exact r2
  simp only
  split
  · split <;> exact r3
  · exact r3

/-- `protocolVx.Unpack(ctx, buf)` moves `buf` by `Retrieve` / `Read` only -/
theorem unpackRing_reach (v : Ver) (gz : GzOracle) (codec : UInt8) (pend : Option Header) (a rb : Ring)
    (hr : Reach a rb) : Reach a (unpackRing v gz codec pend rb).rb := by
  unfold unpackRing
  extract_lets h o
  split
  · have r1 : Reach a o.rb := hdrUnpackRing_reach v h a rb hr
    split
    · exact r1
    · exact r1
    · split
      · exact r1
      · exact unpackBody_reach v gz codec _ a _ r1
  · exact unpackBody_reach v gz codec h a rb hr

theorem readPacketLoop_reach (v : Ver) (gz : GzOracle) (codec : UInt8) (a : Ring) :
    ∀ (fuel : Nat) (pend : Option Header) (rb : Ring), Reach a rb →
      Reach a (readPacketLoop v gz codec fuel pend rb).2.2.2 := by
  intro fuel
  induction fuel with
  | zero => intro pend rb hr; exact hr
  | succ n ih =>
    intro pend rb hr
    have h1 := unpackRing_reach v gz codec pend a rb hr
    rw [readPacketLoop]
    simp only
    split
    · exact ih _ _ h1
    · exact h1

theorem readPacket_reach (v : Ver) (gz : GzOracle) (codec : UInt8) (pend : Option Header) (rb : Ring) :
    Reach rb (readPacket v gz codec pend rb).2.2.2 :=
  readPacketLoop_reach v gz codec rb _ pend rb .refl

theorem reach_holds {a b : Ring} {q : Bytes} (H : a.Holds q) (h : Reach a b) :
    b.buf = a.buf ∧ b.size = a.size ∧ ∃ k, b.Holds (q.drop k) := by
  induction h with
  | refl => exact ⟨rfl, rfl, 0, H⟩
  | @retrieve b' n _ ih =>
    obtain ⟨hb, hs, k, Hb⟩ := ih
    have := retrieve_buf b' n
    exact ⟨by rw [this.1, hb], by rw [this.2, hs], k + n, List.drop_drop ▸ Hb.retrieve n⟩
  | read n _ hr ih =>
    obtain ⟨hb, hs, k, Hb⟩ := ih
    obtain ⟨w2, _, ha⟩ := read_ok _ _ Hb.wf n _ hr
    have := read_w_buf_size hr
    exact ⟨by rw [this.2.1, hb], by rw [this.2.2, hs], k + n, w2, by rw [ha, Hb.abs, List.drop_drop]⟩

theorem reach_w0 (a b : Ring) (hw : a.w = 0) (h : Reach a b) : b.w = 0 := by
  induction h with
  | refl => exact hw
  | retrieve n _ ih => exact retrieve_w0 _ n ih
  | read n _ hr ih => rw [(read_w_buf_size hr).1]; exact ih

/-- KEY LEMMA of the fast path. On every ring reachable from `NewWithData(d)` by `Retrieve` / `Read` / peeks only — in
particular the temporary ring after any number of `Unpack` calls — `w` is still 0, so `PeekAll` returns an EMPTY second
slice and ALL the unread bytes in the first. No corner case: it holds for the empty chunk (`NewWithData(nil)`: size 0,
flagged non-empty) and when everything has been consumed (`RetrieveAll` / `Read` flag the ring empty; `PeekAll` then
returns two nil slices). -/
theorem reach_newWithData (d : Bytes) (b : Ring) (h : Reach (Ring.newWithData d) b) :
    b.WF ∧ b.w = 0 ∧ b.buf = d ∧ b.size = d.length ∧
    b.peekAll.2 = [] ∧ b.peekAll.1 = b.abs ∧ ∃ k, b.abs = d.drop k := by
  obtain ⟨hb, hs, k, H⟩ := reach_holds (.newWithData d) h
  have hw := reach_w0 _ b rfl h
  obtain ⟨p2, p1⟩ := peekAll_w0 b H.wf hw
  exact ⟨H.wf, hw, hb, hs, p2, p1, k, H.abs⟩

/-- the form used by the reader: after `readPacket(NewWithData(chunk))`, `first` is the whole left-over -/
theorem fast_path_first_is_everything (v : Ver) (gz : GzOracle) (codec : UInt8) (pend : Option Header)
    (chunk : Bytes) :
    let b := (readPacket v gz codec pend (Ring.newWithData chunk)).2.2.2
    b.WF ∧ b.peekAll.2 = [] ∧ b.peekAll.1 = b.abs ∧ ∃ k, b.abs = chunk.drop k := by
  obtain ⟨h1, _, _, _, h2, h3, h4⟩ :=
    reach_newWithData chunk _ (readPacket_reach v gz codec pend (Ring.newWithData chunk))
  exact ⟨h1, h2, h3, h4⟩

/-- why the lemma is needed: on a well-formed ring that wraps (w ≠ 0) the second slice is NOT empty,
keeping only `first` would lose bytes. (The slow path never does that: it decodes `conn.readBuf`
in place.) -/
example : (⟨[5, 0, 0, 4], 4, 3, 1, false⟩ : Ring).WF ∧
    (⟨[5, 0, 0, 4], 4, 3, 1, false⟩ : Ring).peekAll = ([4], [5]) ∧
    (⟨[5, 0, 0, 4], 4, 3, 1, false⟩ : Ring).abs = [4, 5] :=
  ⟨by constructor <;> decide, by decide, by decide⟩

theorem unpackRing_pkt_pend (v : Ver) (gz : GzOracle) (codec : UInt8) (pend : Option Header) (rb : Ring)
    (wf : rb.WF) (k : Packet) (h : (unpackRing v gz codec pend rb).res = .pkt k) :
    (unpackRing v gz codec pend rb).pend = none := by
  obtain ⟨e1, e2, _, _⟩ := unpackRing_eq_abs v gz codec pend rb wf
  rw [e2]
  exact unpackAbs_pend_none v gz codec pend rb.abs (by rw [← e1, h]; simp)

theorem readPacketLoop_succ (v : Ver) (gz : GzOracle) (codec : UInt8) (fuel : Nat) (pend : Option Header) (rb : Ring)
    (wf : rb.WF) (h : ∀ k, (unpackRing v gz codec pend rb).res = .pkt k →
      readPacketLoop v gz codec fuel none (unpackRing v gz codec pend rb).rb =
        runRing v gz codec (unpackRing v gz codec pend rb).rb) :
    readPacketLoop v gz codec (fuel + 1) pend rb = drainRing v gz codec pend rb := by
  rw [readPacketLoop, drainRing]
  simp only
  cases hres : (unpackRing v gz codec pend rb).res with
  | pkt k => simp only [unpackRing_pkt_pend v gz codec pend rb wf k hres, h k hres]
  | _ => rfl

theorem readPacketLoop_eq_runRing (v : Ver) (gz : GzOracle) (codec : UInt8) :
    ∀ (fuel : Nat) (rb : Ring), rb.WF → rb.length < fuel →
      readPacketLoop v gz codec fuel none rb = runRing v gz codec rb := by
  intro fuel
  induction fuel with
  | zero => intro rb _ h; omega
  | succ n ih =>
    intro rb wf hlt
    rw [runRing_eq_drainRing v gz codec rb wf]
    refine readPacketLoop_succ v gz codec n none rb wf fun k hk => ih _ (unpackRing_eq_abs v gz codec none rb wf).2.2.1 ?_
    have := unpackRing_pkt_length v gz codec rb wf k hk
    omega

/-- THE READER'S LOOP IS `drainRing`: on every well-formed ring and for every parked header the
fuel `Length() + 2` is never exhausted — the out-of-fuel result of `readPacketLoop` is unreachable.
(The first call may deliver a packet without taking a byte off the ring, when it resumes a parked
complete header of an empty frame; every later one starts fresh and takes at least a header.) -/
theorem readPacket_eq_drainRing (v : Ver) (gz : GzOracle) (codec : UInt8) (pend : Option Header) (rb : Ring)
    (wf : rb.WF) : readPacket v gz codec pend rb = drainRing v gz codec pend rb := by
  obtain ⟨_, _, j, H⟩ := reach_holds wf.holds (unpackRing_reach v gz codec pend rb rb .refl)
  refine readPacketLoop_succ v gz codec _ pend rb wf fun k _ => readPacketLoop_eq_runRing v gz codec _ _ H.wf ?_
  rw [H.length, length_abs _ wf, List.length_drop]; omega

/-- the same for the project's `drainRing`, which is `readPacket` on a well-formed ring -/
theorem drainRing_newWithData (v : Ver) (gz : GzOracle) (codec : UInt8) (pend : Option Header) (chunk : Bytes) :
    let b := (drainRing v gz codec pend (Ring.newWithData chunk)).2.2.2
    b.WF ∧ b.peekAll.2 = [] ∧ b.peekAll.1 = b.abs ∧ ∃ k, b.abs = chunk.drop k := by
  rw [← readPacket_eq_drainRing v gz codec pend _ (Holds.newWithData chunk).wf]
  exact fast_path_first_is_everything v gz codec pend chunk

/-- `drainRing_step` for `readPacket`; both paths of `readStep` are instances -/
theorem readPacket_step (v : Ver) (gz : GzOracle) (codec : UInt8) (c : Conn) (x : Bytes) (hs : c.stop = none)
    (rb : Ring) (H : rb.Holds (c.q ++ x)) :
    (readPacket v gz codec c.pend rb).2.2.2.WF ∧
    c.step v gz codec x =
      { pend := (readPacket v gz codec c.pend rb).2.2.1, q := (readPacket v gz codec c.pend rb).2.2.2.abs,
        pkts := c.pkts ++ (readPacket v gz codec c.pend rb).1,
        stop := if (readPacket v gz codec c.pend rb).2.1 = .more then none
                else some (readPacket v gz codec c.pend rb).2.1 } := by
  rw [readPacket_eq_drainRing v gz codec c.pend rb H.wf]
  exact drainRing_step v gz codec c x hs rb H

/-- simulation between the reader goroutine and the queue connection `Conn` of OAP/Proofs/Stream.lean -/
def RSim (s : RSt) (c : Conn) : Prop :=
  s.pend = c.pend ∧ s.readBuf.WF ∧ (c.stop = none → s.readBuf.abs = c.q) ∧ s.pkts = c.pkts ∧
  s.stopped = c.stop

/-- `n == 0 → continue` -/
theorem readStep_nil (v : Ver) (gz : GzOracle) (codec : UInt8) (s : RSt) (x : Bytes) (hx : x.length = 0) :
    readStep v gz codec s x = s := by
  unfold readStep
  split
  · rfl
  · simp [hx]

/-- ONE SOCKET READ, whichever path it takes, is one step of the queue connection -/
theorem rsim_step (v : Ver) (gz : GzOracle) (codec : UInt8) (s : RSt) (c : Conn) (x : Bytes)
    (hx : x.length ≠ 0) (h : RSim s c) : RSim (readStep v gz codec s x) (c.step v gz codec x) := by
  cases hs : c.stop with
  | some e =>
    rw [Conn.step_stopped hs, show readStep v gz codec s x = s by simp only [readStep, h.2.2.2.2.trans hs]]
    exact h
  | none =>
    obtain ⟨h1, h2, h3, h4, h5⟩ := h
    have hrs : s.stopped = none := by rw [h5, hs]
    by_cases hl : s.readBuf.length = 0
    · -- fast path: the queue is empty, the chunk is decoded in place, `first` is all that is left
      have hq0 : c.q = [] := by
        rw [← h3 hs]; exact List.eq_nil_of_length_eq_zero (by rw [← length_abs _ h2]; exact hl)
      obtain ⟨wfB, _, hfirst, _⟩ := fast_path_first_is_everything v gz codec s.pend x
      obtain ⟨_, e⟩ := readPacket_step v gz codec c x hs _ (by rw [hq0]; exact .newWithData x)
      rw [e, ← h1]
      simp only [readStep, hrs, hx, hl, ↓reduceIte]
      split
      · rename_i hm
        -- `readBuf` well formed, then what it holds; each by whether `first` is non-empty (it is written into `readBuf`) or empty
        refine ⟨rfl, ?_, fun _ => ?_, by rw [h4], by simp [hm]⟩ <;> simp only <;> split
        · exact (write_spec _ h2 _).1
        · exact h2
        · rw [(write_spec _ h2 _).2, h3 hs, hq0, List.nil_append, hfirst]
        · rw [h3 hs, hq0]
          exact (List.eq_nil_of_length_eq_zero (by rw [← length_abs _ wfB]; omega)).symm
      · rename_i hne
        have hne' : ¬ _ = SRes.more := hne
        exact ⟨rfl, h2, fun hn => by simp [hne'] at hn, by rw [h4], by simp [hne']⟩
    · -- slow path
      obtain ⟨w3, e⟩ := readPacket_step v gz codec c x hs _ ((Holds.mk h2 (h3 hs)).write x)
      rw [e, ← h1]
      simp only [readStep, hrs, hx, hl, ↓reduceIte]
      exact ⟨rfl, (h1 ▸ w3), fun _ => rfl, by rw [h4], rfl⟩

/-- the reader after any reads is simulated by a queue connection that has taken in the same stream (`Conn.Inv`); an empty read
changes neither the reader nor the stream -/
theorem reading_sim (v : Ver) (gz : GzOracle) (codec : UInt8) (rb0 : Ring) (wf : rb0.WF) (he : rb0.abs = [])
    (chunks : List Bytes) : ∃ c : Conn, RSim (reading v gz codec rb0 chunks) c ∧ c.Inv v gz codec chunks.flatten := by
  have : ∀ (s : RSt) (c : Conn) (U : Bytes), RSim s c → c.Inv v gz codec U →
      ∃ c', RSim (chunks.foldl (readStep v gz codec) s) c' ∧ c'.Inv v gz codec (U ++ chunks.flatten) := by
    induction chunks with
    | nil => intro s c U h1 h2; exact ⟨c, h1, by simpa using h2⟩
    | cons x xs ih =>
      intro s c U h1 h2
      rw [List.foldl_cons, List.flatten_cons, ← List.append_assoc]
      cases x with
      | nil => rw [readStep_nil v gz codec s [] rfl, List.append_nil]; exact ih s c U h1 h2
      | cons a t => exact ih _ _ _ (rsim_step v gz codec s c (a :: t) (by simp) h1) (h2.step _)
  simpa [reading] using this _ _ [] ⟨rfl, wf, fun _ => he, rfl, rfl⟩ (feed_inv v gz codec [])

theorem reading_spec (v : Ver) (gz : GzOracle) (codec : UInt8) (rb0 : Ring) (wf : rb0.WF)
    (he : rb0.abs = []) (chunks : List Bytes) :
    (reading v gz codec rb0 chunks).obs =
      ((run v gz codec chunks.flatten).1,
       if (run v gz codec chunks.flatten).2.1 = .more then none else some (run v gz codec chunks.flatten).2.1) := by
  obtain ⟨c, ⟨_, _, _, h4, h5⟩, _, c2, c3⟩ := reading_sim v gz codec rb0 wf he chunks
  unfold RSt.obs
  split at c3 <;> simp_all

/-- REFINEMENT. From any well-formed empty ring as `conn.readBuf` (any capacity, any offsets — in
particular `ringbuffer.New(ReadBufferSize)`), for every sequence of socket reads (empty reads
included), the packets the reader goroutine delivers, in order, and its error verdict are those of
the abstract queue connection `feed` — whatever path (in-place decode of the chunk, or write behind
the left-over) each read took. -/
theorem reading_eq_feed (v : Ver) (gz : GzOracle) (codec : UInt8) (rb0 : Ring) (wf : rb0.WF)
    (he : rb0.abs = []) (chunks : List Bytes) :
    (reading v gz codec rb0 chunks).obs = (feed v gz codec chunks).obs := by
  rw [reading_spec v gz codec rb0 wf he chunks, feed_obs]

/-- the undelivered bytes of the TCP connection: the parked header re-encoded (`s_hdrBytes`), then the left-over ring -/
def RSt.unread (v : Ver) (s : RSt) : Bytes := Frame.unread v s.pend s.readBuf.abs

/-- the reader's invariant after the socket has delivered the byte stream `U` (in any segmentation), against the one-shot
read loop over `U`. `live`: while the goroutine runs, parked header ++ left-over ring are exactly the loop's undelivered
bytes, whichever ring (the temporary one or `conn.readBuf`) was being decoded when the header was parked. -/
structure RInv (v : Ver) (gz : GzOracle) (codec : UInt8) (s : RSt) (U : Bytes) : Prop where
  wf : s.readBuf.WF
  pend_ok : PendOK v s.pend
  pkts : s.pkts = (run v gz codec U).1
  live : s.stopped = none → (run v gz codec U).2.1 = .more ∧
    s.unread v = Frame.unread v (run v gz codec U).2.2.1 (run v gz codec U).2.2.2
  dead : ∀ e, s.stopped = some e → e ≠ .more ∧ (run v gz codec U).2.1 = e

theorem reading_invariant (v : Ver) (gz : GzOracle) (codec : UInt8) (rb0 : Ring) (wf : rb0.WF)
    (he : rb0.abs = []) (chunks : List Bytes) :
    RInv v gz codec (reading v gz codec rb0 chunks) chunks.flatten := by
  obtain ⟨c, ⟨h1, h2, h3, h4, h5⟩, c1, c2, c3⟩ := reading_sim v gz codec rb0 wf he chunks
  refine ⟨h2, h1 ▸ c1, h4 ▸ c2, fun hn => ?_, fun e hs => ?_⟩ <;> split at c3
  · exact ⟨‹_›, by rw [RSt.unread, h1, h3 c3.1]; exact c3.2⟩
  · rw [h5, c3] at hn; cases hn
  · rw [h5, c3.1] at hs; cases hs
  · rw [h5, c3] at hs; cases hs; exact ⟨‹_›, rfl⟩

/-- while the reader runs, its undelivered bytes are a suffix of the stream received so far, and what
it will do with whatever arrives next (`c`) is what a fresh decoder does on that suffix ++ `c` -/
theorem reading_unread_suffix (v : Ver) (gz : GzOracle) (codec : UInt8) (rb0 : Ring) (wf : rb0.WF)
    (he : rb0.abs = []) (chunks : List Bytes) (hs : (reading v gz codec rb0 chunks).stopped = none) :
    (∃ k, (reading v gz codec rb0 chunks).unread v = chunks.flatten.drop k) ∧
    ∀ c, drain v gz codec (reading v gz codec rb0 chunks).pend ((reading v gz codec rb0 chunks).readBuf.abs ++ c)
      = run v gz codec ((reading v gz codec rb0 chunks).unread v ++ c) := by
  obtain ⟨_, hp, _, hl, _⟩ := reading_invariant v gz codec rb0 wf he chunks
  obtain ⟨hm, hu⟩ := hl hs
  refine ⟨?_, fun c => ?_⟩
  · rw [hu]
    exact run_more_suffix v gz codec chunks.flatten hm
  · exact drain_unread_append v gz codec _ _ c hp

/-- ONE READ, both paths at once. From any state with a well-formed left-over ring and a parked header
the decoder can have parked, a non-empty read `x` does what the one-shot loop does on the
connection's undelivered bytes followed by `x`: delivers its packets, parks its header, stops with
its error — and, if it ends in "need more data", leaves exactly its queue in `conn.readBuf`
(after a fast-path read: the copy of `first` — consistent with the header parked while decoding
the temporary ring). -/
theorem readStep_spec (v : Ver) (gz : GzOracle) (codec : UInt8) (s : RSt) (wf : s.readBuf.WF)
    (hp : PendOK v s.pend) (hs : s.stopped = none) (x : Bytes) (hx : x.length ≠ 0) :
    let R := run v gz codec (s.unread v ++ x)
    let s' := readStep v gz codec s x
    s'.pkts = s.pkts ++ R.1 ∧ s'.pend = R.2.2.1 ∧ s'.readBuf.WF ∧
    s'.stopped = (if R.2.1 = .more then none else some R.2.1) ∧
    (R.2.1 = .more → s'.readBuf.abs = R.2.2.2) := by
  have hsim : RSim s { pend := s.pend, q := s.readBuf.abs, pkts := s.pkts, stop := none } :=
    ⟨rfl, wf, fun _ => rfl, rfl, hs⟩
  have e1 : drain v gz codec s.pend (s.readBuf.abs ++ x) = run v gz codec (s.unread v ++ x) :=
    drain_unread_append v gz codec _ _ x hp
  obtain ⟨h1, h2, h3, h4, h5⟩ := rsim_step v gz codec s _ x hx hsim
  simp only [Conn.step, e1] at h1 h2 h3 h4 h5
  refine ⟨h4, h1, h2, h5, fun hm => h3 (by simp [hm])⟩

theorem tcp_reader_frames (v : Ver) (gz : GzOracle) (codec : UInt8) (fs : List Spec.Frame) (qs : List Packet)
    (h : Forall₂ (Denotes v gz codec) fs qs) (rb0 : Ring) (wf : rb0.WF) (he : rb0.abs = [])
    (chunks : List Bytes) (hc : chunks.flatten = (fs.map (Spec.encode v)).flatten) :
    (reading v gz codec rb0 chunks).obs = (qs, none) := by
  rw [reading_eq_feed v gz codec rb0 wf he chunks]
  exact feed_frames v gz codec fs qs h chunks hc

end OAP.Reading
