/-
The decoder over the ring buffer computes exactly `unpackAbs` (OAP/Proofs/Stream.lean) on the queue the ring holds, for every
well-formed ring (`unpackRing_refines`: so it cannot depend on capacity, offsets or wrap position); so do the read loop over the
ring (`runRing_abs`, `drainRing_abs`) and the connection that `Write`s every chunk into one ring (`rfeed_obs`).
Definitions the property statements (C01, C03, C04b) are phrased with: `runRing` / `drainRing`, `RConn` / `rfeed`.
-/
import OAP.Proofs.Ring
import OAP.Proofs.Stream
namespace OAP
namespace Frame
open Ring

theorem len3_spec (f e : Bytes) (a b c : UInt8) (h : f ++ e = [a, b, c]) : len3 f e = .ok (a, b, c) := by
  match f, h with
  | [], h => simp at h; subst h; simp [len3, Bytes.idx]
  | [x], h => simp at h; obtain ⟨rfl, rfl⟩ := h; simp [len3, Bytes.idx]
  | [x, y], h => simp at h; obtain ⟨rfl, rfl, rfl⟩ := h; simp [len3, Bytes.idx]
  | [x, y, z], h => simp at h; obtain ⟨rfl, rfl, rfl, rfl⟩ := h; simp [len3, Bytes.idx]
  | _ :: _ :: _ :: _ :: _, h => simp at h

theorem _root_.OAP.Ring.Holds.len3 {rb : Ring} {q : Bytes} (h : rb.Holds q) (h3 : 3 ≤ q.length) :
    len3 (rb.peek 3).1 (rb.peek 3).2 = .ok (b3 q) := by
  have hpk := peek_abs rb h.wf 3
  rw [h.abs] at hpk
  match q, h3 with
  | a :: b :: c :: t, _ => exact len3_spec _ _ a b c (by simpa using hpk)

theorem unpackRest_abs (v : Ver) (h : Header) {rb : Ring} {q : Bytes} (H : rb.Holds q)
    (hk : isUnknown h.type = false) (hlen : hdrLen v h.type - 1 ≤ q.length) :
    ∃ rb', Header.unpackRest v h rb = { done := true, h := (restAbs v h q).1, rb := rb' } ∧ rb'.Holds (restAbs v h q).2 := by
  obtain ⟨w, q', rfl, hw⟩ := split_at (hdrLen v h.type - 1) q hlen
  rw [restAbs_append v h w q' hk hw]
  refine ⟨(Header.unpackRest v h rb).rb, ?_⟩
  -- every ring the six walks pass through, with the queue it holds, stated before the split: the peeks
  -- rewrite by closed equations and no well-formedness side condition is left to discharge. (The queues
  -- are left as iterated `drop`s: normalising them in all hypotheses costs more than the rest of the proof.)
  -- `H1` after cmd; `H2` after the request id, `H2'` a v2 push after its metadata length; `H3` / `H3'` after timeout (request) /
  -- status (response); `H4` / `H4'` these in v2 after the metadata length; `F…` the same paths after the 3-byte length.
  have H1 := H.retrieve 1
  have H2 := H1.retrieve 4; have H2' := H1.retrieve 2
  have H3 := H2.retrieve 2; have H3' := H2.retrieve 1
  have H4 := H3.retrieve 2; have H4' := H3'.retrieve 2
  have F1 := H1.retrieve 3; have F2' := H2'.retrieve 3; have F3 := H3.retrieve 3; have F3' := H3'.retrieve 3
  have F4 := H4.retrieve 3; have F4' := H4'.retrieve 3
  generalize ht : h.type = t at hk hw
  cases hdrShape v t w hk hw <;>
    simp [Header.unpackRest, ht, H.peekUint8, H1.peekUint32, H1.peekUint16, H2.peekUint16, H2.peekUint8, H3.peekUint16,
      H3'.peekUint16, H1.len3, H2'.len3, H3.len3, H3'.len3, H4.len3, H4'.len3, tconsts,
      restAbs, stCmd, stRid, stTimeout, stStatus, stMdLen, stLen, Q.u8, Q.u16, Q.u32, b3] <;>
    assumption

/-- `o`, seen through the queue its ring holds, is `a` -/
structure SOut.Refines (o : SOut) (a : SRes × Option Header × Bytes) : Prop where
  wf : o.rb.WF
  eq : a = (o.res, o.pend, o.rb.abs)

theorem SOut.Refines.of_holds {s : SRes} {p : Option Header} {rb : Ring} {q : Bytes} (H : rb.Holds q) :
    SOut.Refines ⟨s, p, rb⟩ (s, p, q) := ⟨H.wf, by rw [H.abs]⟩

theorem unpackBody_abs (v : Ver) (gz : GzOracle) (codec : UInt8) (h : Header) {rb : Ring} {q : Bytes} (H : rb.Holds q) :
    (unpackBody v gz codec h rb).Refines (bodyAbs v gz codec h q) := by
  have htl := trailerLen_eq
  by_cases hlt : q.length < needLen v h
  · have hlt' := hlt
    simp only [needLen, s_mdLenOf] at hlt'
    cases v <;> simp only [unpackBody, bodyAbs, H.length, hlt, hlt', ↓reduceIte] <;> exact .of_holds H
  · have hge : needLen v h ≤ q.length := by omega
    -- by version first: the model's inline `match v` and `s_mdLenOf`/`withValues` are different matcher constants. Each leaf
    -- states the rings the walk passes through, rewrites both sides with them, and is left with the gzip stage on both sides
    cases v
    · simp only [needLen, s_mdLenOf, Nat.add_zero] at hlt hge
      obtain ⟨rb2, hr2, H2⟩ := H.read h.bodyLength.toNat (by omega)
      by_cases hv : (h.verify == 1) = true
      · simp only [hv, ↓reduceIte] at hlt hge
        obtain ⟨rb4, hr4, H4⟩ := (H2.retrieve 8).read 16 (by simp only [List.length_drop]; omega)
        simp only [unpackBody, bodyAbs, bodyFull, needLen, s_mdLenOf, withValues, H.length, Nat.add_zero, hv, hlt, hr2,
          H2.peekUint64, hr4, ↓reduceIte, Gen.v1_NonceLength, Gen.v1_SignatureLength, List.drop_zero]
        generalize Gzip.decompress gz _ = d
        cases d <;> cases h.gzip == 1 <;> exact .of_holds H4
      · simp only [hv, Bool.false_eq_true, ↓reduceIte, Nat.add_zero] at hlt
        simp only [unpackBody, bodyAbs, bodyFull, needLen, s_mdLenOf, withValues, H.length, Nat.add_zero, hv, hlt, hr2,
          Bool.false_eq_true, ↓reduceIte, List.drop_zero]
        generalize Gzip.decompress gz _ = d
        cases d <;> cases h.gzip == 1 <;> exact .of_holds H2
    · simp only [needLen, s_mdLenOf] at hlt hge
      obtain ⟨rb1, hr1, H1⟩ := H.read h.metadataLength.toNat (by omega)
      obtain ⟨rb2, hr2, H2⟩ := H1.read h.bodyLength.toNat (by rw [List.length_drop]; omega)
      cases hrp : Metadata.rawPairs (q.take h.metadataLength.toNat) with
      | err | panic =>
        simp only [unpackBody, bodyAbs, bodyFull, needLen, s_mdLenOf, withValues, H.length, hlt, hr1, hr2, hrp, ↓reduceIte]
        exact .of_holds H2
      | ok ps =>
        by_cases hv : (h.verify == 1) = true
        · simp only [hv, ↓reduceIte] at hlt hge
          obtain ⟨rb4, hr4, H4⟩ := (H2.retrieve 8).read 16 (by simp only [List.length_drop]; omega)
          simp only [unpackBody, bodyAbs, bodyFull, needLen, s_mdLenOf, withValues, H.length, hv, hlt, hr1, hr2, hrp,
            H2.peekUint64, hr4, ↓reduceIte, Gen.v1_NonceLength, Gen.v1_SignatureLength]
          generalize Gzip.decompress gz _ = d
          cases d <;> cases h.gzip == 1 <;> exact .of_holds H4
        · simp only [hv, Bool.false_eq_true, ↓reduceIte, Nat.add_zero] at hlt
          simp only [unpackBody, bodyAbs, bodyFull, needLen, s_mdLenOf, withValues, H.length, Nat.add_zero, hv, hlt, hr1, hr2,
            hrp, Bool.false_eq_true, ↓reduceIte]
          generalize Gzip.decompress gz _ = d
          cases d <;> cases h.gzip == 1 <;> exact .of_holds H2

/-- the part of `Header.Unpack` after byte 0 is in the header -/
def hdrTail (v : Ver) (h : Header) (rb : Ring) : HOut :=
  if isUnknown h.type then { done := false, err := some "invalid packet type", h := h, rb := rb }
  else if rb.length < hdrLen v h.type - 1 then { done := false, h := h, rb := rb }
  else Header.unpackRest v h rb

/-- The `err` arm, which the model turns into a panic, is never taken: `Ring.peekUint8` returns no `err`
(`Ring.peekUint8_ne_err`). -/
theorem Header.unpackRing_eq (v : Ver) (h : Header) (rb : Ring) :
    Header.unpackRing v h rb =
      if rb.length = 0 then { done := false, h := h, rb := rb }
      else if h.isUnpacked then { done := true, h := h, rb := rb }
      else if h.beginUnpack then hdrTail v h rb
      else match rb.peekUint8 with
        | .ok b => hdrTail v (parse0 v h b) (rb.retrieve 1)
        | .err e => { done := false, panic := some e, h := h, rb := rb }
        | .panic w => { done := false, panic := some w, h := h, rb := rb } := by
  unfold Header.unpackRing hdrTail parse0
  cases h.beginUnpack
  · cases rb.peekUint8 <;> rfl
  · rfl

/-- what `protocolVx.Unpack` does with the outcome of `Header.Unpack`: the closing `match` of the model's `unpackRing`, named -/
def finish (v : Ver) (gz : GzOracle) (codec : UInt8) (o : HOut) : SOut :=
  match o.panic, o.err with
  | some w, _ => { res := .panic w, pend := none, rb := o.rb }
  | none, some e => { res := .err e, pend := none, rb := o.rb }
  | none, none =>
    if !o.done then { res := .more, pend := some o.h, rb := o.rb }
    else unpackBody v gz codec o.h o.rb

theorem finish_tail_abs (v : Ver) (gz : GzOracle) (codec : UInt8) (h : Header) {rb : Ring} {q : Bytes} (H : rb.Holds q) :
    (finish v gz codec (hdrTail v h rb)).Refines (tailAbs v gz codec (h, q)) := by
  unfold hdrTail tailAbs
  rw [H.length]
  cases hk : isUnknown h.type with
  | true => exact .of_holds H
  | false =>
    by_cases hl : q.length < hdrLen v h.type - 1
    · simp only [hl, Bool.false_eq_true, ↓reduceIte]
      exact .of_holds H
    · obtain ⟨rb', he, H'⟩ := unpackRest_abs v h H hk (by omega)
      simp only [hl, he, finish, Bool.not_true, Bool.false_eq_true, ↓reduceIte]
      exact unpackBody_abs v gz codec _ H'

theorem hdrTail_facts (v : Ver) (h : Header) {rb : Ring} {q : Bytes} (H : rb.Holds q) :
    (hdrTail v h rb).rb.WF ∧ ((hdrTail v h rb).done = true → (hdrTail v h rb).h.isUnpacked = true) := by
  unfold hdrTail
  rw [H.length]
  by_cases hk : isUnknown h.type = true
  · simp [hk, H.wf]
  · simp only [hk, Bool.false_eq_true, ↓reduceIte]
    by_cases hl : q.length < hdrLen v h.type - 1
    · simp [hl, H.wf]
    · simp only [hl, ↓reduceIte]
      obtain ⟨rb', he, H'⟩ := unpackRest_abs v h H (by simpa using hk) (by omega)
      rw [he]
      exact ⟨H'.wf, fun _ => restAbs_isUnpacked v h q⟩

theorem hdr_unpackRing_facts (v : Ver) (h : Header) (rb : Ring) (wf : rb.WF) :
    (Header.unpackRing v h rb).rb.WF ∧ ((Header.unpackRing v h rb).done = true → (Header.unpackRing v h rb).h.isUnpacked = true) := by
  have H := wf.holds
  rw [Header.unpackRing_eq, H.peekUint8]
  split
  · exact ⟨wf, by simp⟩
  split
  · next hu => exact ⟨wf, fun _ => hu⟩
  split
  · exact hdrTail_facts v h H
  · exact hdrTail_facts v _ (H.retrieve 1)

theorem unpackRing_refines (v : Ver) (gz : GzOracle) (codec : UInt8) (pend : Option Header) {rb : Ring} {q : Bytes}
    (H : rb.Holds q) : (unpackRing v gz codec pend rb).Refines (unpackAbs v gz codec pend q) := by
  unfold unpackRing unpackAbs
  generalize pend.getD {} = h
  cases hu : h.isUnpacked with
  | true =>
    simp only [hu, Bool.not_true, Bool.false_eq_true, ↓reduceIte]
    exact unpackBody_abs v gz codec h H
  | false =>
    simp only [Header.unpackRing_eq, H.length, H.peekUint8, hu, Bool.not_false, Bool.false_eq_true, ↓reduceIte]
    by_cases h0 : q.length = 0
    · simp only [h0, ↓reduceIte]
      exact .of_holds H
    · simp only [h0, ↓reduceIte]
      show (finish v gz codec _).Refines _
      split
      · exact finish_tail_abs v gz codec h H
      · exact finish_tail_abs v gz codec _ (H.retrieve 1)

theorem unpackRing_eq_abs (v : Ver) (gz : GzOracle) (codec : UInt8) (pend : Option Header) (rb : Ring)
    (wf : rb.WF) :
    (unpackRing v gz codec pend rb).res = (unpackAbs v gz codec pend rb.abs).1 ∧
    (unpackRing v gz codec pend rb).pend = (unpackAbs v gz codec pend rb.abs).2.1 ∧
    (unpackRing v gz codec pend rb).rb.WF ∧
    (unpackRing v gz codec pend rb).rb.abs = (unpackAbs v gz codec pend rb.abs).2.2 := by
  obtain ⟨w, e⟩ := unpackRing_refines v gz codec pend wf.holds
  rw [e]; exact ⟨rfl, rfl, w, rfl⟩

abbrev REnd := SRes × Option Header × Ring

/-- the read loop over the ring from a fresh context. The guard `o.rb.length < rb.length` is there for the termination
proof only; it holds on every well-formed ring (`unpackRing_pkt_length`), so the fallback result `panic "no progress"` is
unreachable. -/
def runRing (v : Ver) (gz : GzOracle) (codec : UInt8) (rb : Ring) : List Packet × REnd :=
  match (unpackRing v gz codec none rb).res with
  | .pkt k =>
    if _h : (unpackRing v gz codec none rb).rb.length < rb.length then
      (k :: (runRing v gz codec (unpackRing v gz codec none rb).rb).1,
       (runRing v gz codec (unpackRing v gz codec none rb).rb).2)
    else ([k], (.panic "no progress", none, (unpackRing v gz codec none rb).rb))
  | s => ([], (s, (unpackRing v gz codec none rb).pend, (unpackRing v gz codec none rb).rb))
termination_by rb.length

def drainRing (v : Ver) (gz : GzOracle) (codec : UInt8) (pend : Option Header) (rb : Ring) : List Packet × REnd :=
  match (unpackRing v gz codec pend rb).res with
  | .pkt k =>
    (k :: (runRing v gz codec (unpackRing v gz codec pend rb).rb).1,
     (runRing v gz codec (unpackRing v gz codec pend rb).rb).2)
  | s => ([], (s, (unpackRing v gz codec pend rb).pend, (unpackRing v gz codec pend rb).rb))

def EndRel (o : List Packet × REnd) (a : List Packet × End) : Prop :=
  o.1 = a.1 ∧ o.2.1 = a.2.1 ∧ o.2.2.1 = a.2.2.1 ∧ o.2.2.2.Holds a.2.2.2

section
variable (v : Ver) (gz : GzOracle) (codec : UInt8)

theorem unpackRing_pkt_length (rb : Ring) (wf : rb.WF) (k : Packet)
    (hk : (unpackRing v gz codec none rb).res = .pkt k) : (unpackRing v gz codec none rb).rb.length < rb.length := by
  obtain ⟨w', e⟩ := unpackRing_refines v gz codec none wf.holds
  have := unpack_pkt_lt v gz codec rb.abs k _ _ (by rw [e, hk])
  have := pushLen_pos v
  rw [length_abs _ w', length_abs _ wf]; omega

theorem runRing_abs {rb : Ring} {q : Bytes} (H : rb.Holds q) : EndRel (runRing v gz codec rb) (run v gz codec q) := by
  obtain ⟨wf, rfl⟩ := H
  fun_induction runRing v gz codec rb with
  | case1 rb k hk hl ih =>
    obtain ⟨wf', e⟩ := unpackRing_refines v gz codec none wf.holds
    rw [run_eq_drain, drain, e, hk]
    exact ⟨congrArg (k :: ·) (ih wf').1, (ih wf').2⟩
  | case2 rb k hk hl => exact absurd (unpackRing_pkt_length v gz codec rb wf k hk) hl
  | case3 rb hk =>
    obtain ⟨wf', e⟩ := unpackRing_refines v gz codec none wf.holds
    rw [run_eq_drain, drain, e]
    cases hres : (unpackRing v gz codec none rb).res with
    | pkt k => exact (hk k hres).elim
    | _ => exact ⟨rfl, rfl, rfl, wf'.holds⟩

theorem drainRing_abs (pend : Option Header) {rb : Ring} {q : Bytes} (H : rb.Holds q) :
    EndRel (drainRing v gz codec pend rb) (drain v gz codec pend q) := by
  obtain ⟨wf', e⟩ := unpackRing_refines v gz codec pend H
  rw [drainRing, drain, e]
  cases (unpackRing v gz codec pend rb).res with
  | pkt k => exact ⟨congrArg (k :: ·) (runRing_abs v gz codec wf'.holds).1, (runRing_abs v gz codec wf'.holds).2⟩
  | _ => exact ⟨rfl, rfl, rfl, wf'.holds⟩

theorem runRing_eq_drainRing (rb : Ring) (wf : rb.WF) :
    runRing v gz codec rb = drainRing v gz codec none rb := by
  rw [runRing, drainRing]
  split
  · rw [dif_pos (unpackRing_pkt_length v gz codec rb wf _ ‹_›)]
  · rfl

/-- a ring loop over any ring that holds `c.q ++ x` is one step of the queue connection -/
theorem drainRing_step (c : Conn) (x : Bytes) (hs : c.stop = none)
    (rb : Ring) (H : rb.Holds (c.q ++ x)) :
    (drainRing v gz codec c.pend rb).2.2.2.WF ∧
    c.step v gz codec x =
      { pend := (drainRing v gz codec c.pend rb).2.2.1, q := (drainRing v gz codec c.pend rb).2.2.2.abs,
        pkts := c.pkts ++ (drainRing v gz codec c.pend rb).1,
        stop := if (drainRing v gz codec c.pend rb).2.1 = .more then none
                else some (drainRing v gz codec c.pend rb).2.1 } := by
  obtain ⟨a1, a2, a3, a4⟩ := drainRing_abs v gz codec c.pend H
  exact ⟨a4.wf, by simp only [Conn.step, hs, a1, a2, a3, a4.abs]⟩

end

/-- the connection over the real ring buffer: arriving chunks are `Write`-n into the ring -/
structure RConn where
  pend : Option Header := none
  rb : Ring
  pkts : List Packet := []
  stop : Option SRes := none

def RConn.step (v : Ver) (gz : GzOracle) (codec : UInt8) (c : RConn) (chunk : Bytes) : RConn :=
  match c.stop with
  | some _ => c
  | none =>
    let o := drainRing v gz codec c.pend (c.rb.write chunk)
    { pend := o.2.2.1, rb := o.2.2.2, pkts := c.pkts ++ o.1,
      stop := if o.2.1 = .more then none else some o.2.1 }

def rfeed (v : Ver) (gz : GzOracle) (codec : UInt8) (rb0 : Ring) (chunks : List Bytes) : RConn :=
  chunks.foldl (RConn.step v gz codec) { rb := rb0 }

def RConn.obs (c : RConn) : List Packet × Option SRes := (c.pkts, c.stop)

def Sim (rc : RConn) (c : Conn) : Prop :=
  rc.pend = c.pend ∧ rc.rb.Holds c.q ∧ rc.pkts = c.pkts ∧ rc.stop = c.stop

section
variable (v : Ver) (gz : GzOracle) (codec : UInt8)

theorem sim_step (rc : RConn) (c : Conn) (x : Bytes)
    (h : Sim rc c) : Sim (rc.step v gz codec x) (c.step v gz codec x) := by
  cases hs : c.stop with
  | some s =>
    rw [Conn.step_stopped hs, show rc.step v gz codec x = rc by simp only [RConn.step, h.2.2.2.trans hs]]
    exact h
  | none =>
    obtain ⟨h1, h2, h4, h5⟩ := h
    obtain ⟨a1, a2, a3, a4⟩ := drainRing_abs v gz codec c.pend (h2.write x)
    simp only [RConn.step, Conn.step, h5.trans hs, hs, h1, a1, a2, a3, h4]
    exact ⟨rfl, a4, rfl, rfl⟩

theorem rfeed_obs (rb0 : Ring) (wf : rb0.WF) (he : rb0.abs = [])
    (chunks : List Bytes) : (rfeed v gz codec rb0 chunks).obs = (feed v gz codec chunks).obs := by
  have h0 : Sim { rb := rb0 } {} := ⟨rfl, ⟨wf, he⟩, rfl, rfl⟩
  obtain ⟨_, _, h4, h5⟩ := List.foldl_rel (r := Sim) h0 fun x _ rc c => sim_step v gz codec rc c x
  unfold RConn.obs Conn.obs rfeed feed
  rw [h4, h5]

end

end Frame
end OAP
