/-
The invariant `WInv` of the Waiters view.  It holds in every reachable state, that is, in every interleaving of any number of
calls, dispatchers of any connection, fail-alls and reconnects.
-/
import OAP.Model.Client.Waiters
import OAP.LTS
namespace OAP.Waiters

theorem isRun : LTS.IsRun step run := ⟨fun _ => rfl, fun _ _ _ => rfl⟩

structure WInv (s : St) : Prop where
  tab : ∀ r i c, s.recvs r = some (i, c) →
    s.call i = .registered c r ∨ s.call i = .written c r ∨ ∃ res, s.call i = .returning c r res
  callCur : ∀ i c r, (s.call i = .registered c r ∨ s.call i = .written c r) → c ≤ s.cur
  callIssued : ∀ i r, (s.call i = .registered s.cur r ∨ s.call i = .written s.cur r) → s.issued r = true
  full : ∀ i p c r, s.chan i = .full p → (s.call i = .written c r ∨ s.call i = .registered c r) → p.rid = r ∧ p.conn = c
  resOk : ∀ i c r p, (s.call i = .returning c r (some p) ∨ s.call i = .done c r (some p)) → p.rid = r ∧ p.conn = c
  -- NO LOST WAKE-UP: a call of the current connection that is in flight with an empty slot IS in the table
  inTab : ∀ i r, (s.call i = .written s.cur r ∨ s.call i = .registered s.cur r) → s.chan i = .empty →
    s.recvs r = some (i, s.cur)

theorem inv_init : WInv init := by
  constructor <;> simp [init]

section
attribute [local grind] upd unregister closeRegistered

/-- shape of the proof: head of `OAP/LTS.lean` -/
theorem inv_step (s : St) (a : Act) (s' : St) (i : WInv s) (hs : step s a = some s') : WInv s' := by
  revert hs
  fun_cases step s a <;> rintro ⟨⟩ <;>
    (constructor
     case tab => first | with_reducible exact i.tab | (have := i.tab; intros; grind)
     case callCur => first | with_reducible exact i.callCur | (have := i.callCur; intros; grind)
     case callIssued => first | with_reducible exact i.callIssued | (have := i.callCur; have := i.callIssued; intros; grind)
     case full => first | with_reducible exact i.full | (have := i.tab; have := i.full; intros; grind)
     case resOk => first | with_reducible exact i.resOk | (have := i.full; have := i.resOk; intros; grind)
     case inTab => first | with_reducible exact i.inTab | (have := i.callCur; have := i.callIssued; have := i.inTab; intros; grind))
end

theorem inv_reachable (s : St) (h : Reachable s) : WInv s := by
  obtain ⟨acts, ha⟩ := h
  exact isRun.inv inv_step acts init s inv_init ha

end OAP.Waiters
