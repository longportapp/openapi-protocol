/-
The frame header. `restAbs` reads it off the bytes after byte 0, one reader per field in wire order — a total function of the
queue. `hdrShape`: a complete header of known type is one of six closed lists, one per type and version; each fact about the
header phase is `cases hdrShape … <;> simp` (or `rfl`) over these. On them the one-shot header decoder is evaluated once
(`unpackBytes_hdr_append`), which gives its complete description `Header.unpackBytes_cons`; and every reader gives the layout's
own field back (`restAbs_be`). `parse0` (byte 0 into the header), `restAbs` and `coreHdr` (a header without the two progress
flags) also occur in statements of C03 and C04b.
-/
import OAP.Model.Frame
import OAP.Proofs.BigEndian
namespace OAP
namespace Frame
open Spec

/-! The regenerated constants as numbers: a change in the Go source shows here first (the six header lengths: `hdrLen_vals`).
Being `rfl` lemmas, `simp only` rewrites with them definitionally and leaves the `Decidable` instance of an `if` whose condition
they occur in as it was: where a later `split` must find the same `if` on both sides, use `rw`, or a hypothesis `have e := maxBody_eq`. -/

theorem maxBody_eq : Gen.v1_MaxBodyLength = 16777215 := rfl
theorem maxMd_eq : ((Gen.v2_MaxMetadataLength : Nat) : Int) = 65535 := rfl
theorem nonceLen_eq : Gen.v1_NonceLength = 8 := rfl
theorem sigLen_eq : Gen.v1_SignatureLength = 16 := rfl
theorem trailerLen_eq : trailerLen = 24 := rfl

theorem tconsts : isUnknown tReq = false ∧ isUnknown tResp = false ∧ isUnknown tPush = false ∧
    (tReq == tResp) = false ∧ (tResp == tReq) = false ∧ (tPush == tReq) = false ∧ (tPush == tResp) = false ∧
    (tReq == tReq) = true ∧ (tResp == tResp) = true := by decide

/-- the decoder's type constants are the layout's type numbers -/
theorem type_vals : tReq = 1 ∧ tResp = 2 ∧ tPush = 3 := ⟨rfl, rfl, rfl⟩

theorem tne : tReq ≠ tResp ∧ tResp ≠ tReq ∧ tPush ≠ tReq ∧ tPush ≠ tResp := by decide

theorem isUnknown_false (t : UInt8) (h : isUnknown t = false) : t = tReq ∨ t = tResp ∨ t = tPush := by
  simp only [isUnknown, Bool.not_eq_false', Bool.or_eq_true, beq_iff_eq] at h
  rcases h with (h | h) | h <;> simp [h]

theorem hdrLen_vals (v : Ver) :
    hdrLen v tReq = (match v with | .v1 => 11 | .v2 => 13) ∧
    hdrLen v tResp = (match v with | .v1 => 10 | .v2 => 12) ∧
    hdrLen v tPush = (match v with | .v1 => 5 | .v2 => 7) := by
  cases v <;> decide

/-- the layout as data: byte 0, cmd, the optional fields, the 3-byte length — for every type value (an unknown one counts as push) -/
theorem hdrLen_eq (v : Ver) (t : UInt8) :
    hdrLen v t = 1 + 1 + (if t == tReq || t == tResp then 4 else 0) + (if t == tReq then 2 else 0) +
      (if t == tResp then 1 else 0) + (match v with | .v1 => 0 | .v2 => 2) + 3 := by
  unfold hdrLen
  by_cases h1 : t = tReq
  · subst h1; cases v <;> simp [tconsts] <;> rfl
  · by_cases h2 : t = tResp
    · subst h2; cases v <;> simp [h1] <;> rfl
    · cases v <;> simp [h1, h2] <;> rfl

theorem hdrLen_ge (v : Ver) (t : UInt8) : 5 ≤ hdrLen v t := by rw [hdrLen_eq]; omega

theorem ub_us_type (v : Ver) (b : UInt8) : ubType v b = usType v b := by cases v <;> rfl
theorem ub_us_verify (v : Ver) (b : UInt8) : ubVerify v b = usVerify v b := by cases v <;> rfl
theorem ub_us_gzip (v : Ver) (b : UInt8) : ubGzip v b = usGzip v b := by cases v <;> rfl
theorem ub_us_reserve (v : Ver) (b : UInt8) : ubReserve v b = usReserve v b := by cases v <;> rfl
theorem usBodyLen_rd24 (v : Ver) (a b c : UInt8) : usBodyLen v a b c = rd24 a b c := by cases v <;> rfl

/-- the three length bytes at the head of the queue -/
def b3 : Bytes → UInt8 × UInt8 × UInt8
  | a :: b :: c :: _ => (a, b, c)
  | _ => (0, 0, 0)

def parse0 (v : Ver) (h : Header) (b : UInt8) : Header :=
  { h with beginUnpack := true, type := usType v b, verify := usVerify v b,
           gzip := usGzip v b, reserve := usReserve v b }

def stCmd (s : Header × Bytes) : Header × Bytes :=
  ({ s.1 with isUnpacked := true, cmdCode := Q.u8 s.2 }, s.2.drop 1)
def stRid (s : Header × Bytes) : Header × Bytes :=
  if s.1.type == tReq || s.1.type == tResp then ({ s.1 with requestId := Q.u32 s.2 }, s.2.drop 4) else s
def stTimeout (s : Header × Bytes) : Header × Bytes :=
  if s.1.type == tReq then ({ s.1 with timeout := Q.u16 s.2 }, s.2.drop 2) else s
def stStatus (s : Header × Bytes) : Header × Bytes :=
  if s.1.type == tResp then ({ s.1 with statusCode := Q.u8 s.2 }, s.2.drop 1) else s
def stMdLen (v : Ver) (s : Header × Bytes) : Header × Bytes :=
  match v with
  | .v1 => s
  | .v2 => ({ s.1 with metadataLength := Q.u16 s.2 }, s.2.drop 2)
def stLen (v : Ver) (s : Header × Bytes) : Header × Bytes :=
  ({ s.1 with bodyLength := usBodyLen v (b3 s.2).1 (b3 s.2).2.1 (b3 s.2).2.2 }, s.2.drop 3)

def restAbs (v : Ver) (h : Header) (q : Bytes) : Header × Bytes :=
  stLen v (stMdLen v (stStatus (stTimeout (stRid (stCmd (h, q))))))

def coreHdr (h : Header) : Header := { h with beginUnpack := false, isUnpacked := false }

@[simp] theorem parse0_type (v : Ver) (h : Header) (b : UInt8) : (parse0 v h b).type = usType v b := rfl

@[simp] theorem stRid_flags (s : Header × Bytes) : (stRid s).1.type = s.1.type ∧ (stRid s).1.verify = s.1.verify ∧
    (stRid s).1.isUnpacked = s.1.isUnpacked ∧ (stRid s).1.beginUnpack = s.1.beginUnpack := by
  unfold stRid; split <;> exact ⟨rfl, rfl, rfl, rfl⟩
@[simp] theorem stTimeout_flags (s : Header × Bytes) : (stTimeout s).1.type = s.1.type ∧ (stTimeout s).1.verify = s.1.verify ∧
    (stTimeout s).1.isUnpacked = s.1.isUnpacked ∧ (stTimeout s).1.beginUnpack = s.1.beginUnpack := by
  unfold stTimeout; split <;> exact ⟨rfl, rfl, rfl, rfl⟩
@[simp] theorem stStatus_flags (s : Header × Bytes) : (stStatus s).1.type = s.1.type ∧ (stStatus s).1.verify = s.1.verify ∧
    (stStatus s).1.isUnpacked = s.1.isUnpacked ∧ (stStatus s).1.beginUnpack = s.1.beginUnpack := by
  unfold stStatus; split <;> exact ⟨rfl, rfl, rfl, rfl⟩
@[simp] theorem stMdLen_flags (v : Ver) (s : Header × Bytes) : (stMdLen v s).1.type = s.1.type ∧
    (stMdLen v s).1.verify = s.1.verify ∧
    (stMdLen v s).1.isUnpacked = s.1.isUnpacked ∧ (stMdLen v s).1.beginUnpack = s.1.beginUnpack := by
  cases v <;> exact ⟨rfl, rfl, rfl, rfl⟩

theorem restAbs_isUnpacked (v : Ver) (h : Header) (t : Bytes) : (restAbs v h t).1.isUnpacked = true := by
  simp [restAbs, stLen, stCmd]

theorem restAbs_type (v : Ver) (h : Header) (t : Bytes) : (restAbs v h t).1.type = h.type := by
  simp [restAbs, stLen, stCmd]

theorem restAbs_verify (v : Ver) (h : Header) (t : Bytes) : (restAbs v h t).1.verify = h.verify := by
  simp [restAbs, stLen, stCmd]

theorem restAbs_beginUnpack (v : Ver) (h : Header) (t : Bytes) : (restAbs v h t).1.beginUnpack = h.beginUnpack := by
  simp [restAbs, stLen, stCmd]

/-- stated with `coreHdr`, as the one-shot decoder returns it: matching `(coreHdr H).bodyLength` against `H.bodyLength` makes the
unifier unfold `restAbs` on both sides -/
theorem restAbs_bodyLength_lt (v : Ver) (h : Header) (q : Bytes) : (coreHdr (restAbs v h q).1).bodyLength.toNat < 16777216 := by
  show (restAbs v h q).1.bodyLength.toNat < 16777216
  simp only [restAbs, stLen, usBodyLen_rd24]; exact rd24_lt _ _ _

/-- `w` is the part after byte 0 of a complete header of known type `t`, its bytes named -/
inductive HdrShape : Ver → UInt8 → Bytes → Prop
  | req1 (c a1 a2 a3 a4 t1 t2 x y z : UInt8) : HdrShape .v1 tReq [c, a1, a2, a3, a4, t1, t2, x, y, z]
  | req2 (c a1 a2 a3 a4 t1 t2 l1 l2 x y z : UInt8) : HdrShape .v2 tReq [c, a1, a2, a3, a4, t1, t2, l1, l2, x, y, z]
  | resp1 (c a1 a2 a3 a4 s x y z : UInt8) : HdrShape .v1 tResp [c, a1, a2, a3, a4, s, x, y, z]
  | resp2 (c a1 a2 a3 a4 s l1 l2 x y z : UInt8) : HdrShape .v2 tResp [c, a1, a2, a3, a4, s, l1, l2, x, y, z]
  | push1 (c x y z : UInt8) : HdrShape .v1 tPush [c, x, y, z]
  | push2 (c l1 l2 x y z : UInt8) : HdrShape .v2 tPush [c, l1, l2, x, y, z]

theorem hdrShape (v : Ver) (t : UInt8) (w : Bytes) (hk : isUnknown t = false) (hw : w.length = hdrLen v t - 1) :
    HdrShape v t w := by
  obtain ⟨l1, l2, l3⟩ := hdrLen_vals v
  have hl : hdrLen v t - 1 ≤ w.length := by omega
  rcases isUnknown_false t hk with rfl | rfl | rfl <;> cases v <;>
    simp only [l1, l2, l3, Nat.add_one_sub_one] at hw hl <;> (repeat decons hl) <;>
    cases List.eq_nil_of_length_eq_zero (by simpa using hw) <;> constructor

theorem restAbs_append (v : Ver) (h : Header) (w q : Bytes) (hk : isUnknown h.type = false)
    (hw : w.length = hdrLen v h.type - 1) : restAbs v h (w ++ q) = ((restAbs v h w).1, q) := by
  generalize ht : h.type = t at hk hw
  cases hdrShape v t w hk hw <;>
    simp [restAbs, stCmd, stRid, stTimeout, stStatus, stMdLen, stLen, ht, tconsts, Q.u8, Q.u16, Q.u32, b3]

theorem Header.unpackBytes_nil (v : Ver) : Header.unpackBytes v [] = .err "invalid frame" := by
  simp [Header.unpackBytes]

theorem unpackBytes_hdr_append (v : Ver) (b : UInt8) (w q : Bytes) (hk : isUnknown (usType v b) = false)
    (hw : w.length = hdrLen v (usType v b) - 1) :
    Header.unpackBytes v (b :: (w ++ q)) = .ok (coreHdr (restAbs v (parse0 v {} b) w).1, q) := by
  unfold Header.unpackBytes restAbs parse0
  rw [if_neg (by simp), show Bytes.idx (b :: (w ++ q)) 0 = .ok b from rfl, Res.ok_bind', ub_us_type]
  generalize usType v b = t at hk hw ⊢
  cases hdrShape v t w hk hw <;> rfl   -- one evaluation of the decoder per closed list: far cheaper than `simp`

theorem Header.unpackBytes_cons (v : Ver) (b : UInt8) (t : Bytes) :
    Header.unpackBytes v (b :: t) =
      if isUnknown (ubType v b) then .err "invalid packet type"
      else if t.length + 1 < hdrLen v (ubType v b) then .err "invalid frame"
      else .ok (coreHdr (restAbs v (parse0 v {} b) t).1, t.drop (hdrLen v (ubType v b) - 1)) := by
  have hp := hdrLen_ge v (ubType v b)
  by_cases hl : isUnknown (ubType v b) = false ∧ ¬ t.length + 1 < hdrLen v (ubType v b)
  · obtain ⟨hk, hs⟩ := hl
    rw [hk, if_neg (by decide), if_neg hs]
    rw [ub_us_type] at hk hs ⊢
    have hw : (t.take (hdrLen v (usType v b) - 1)).length = hdrLen v (usType v b) - 1 := by
      rw [List.length_take]; omega
    have h := unpackBytes_hdr_append v b _ (t.drop (hdrLen v (usType v b) - 1)) hk hw
    have ha := restAbs_append v (parse0 v {} b) _ (t.drop (hdrLen v (usType v b) - 1)) hk hw
    rw [List.take_append_drop] at h ha
    rw [h, ha]
  · -- the two refusals: both come when only byte 0 has been read
    unfold Header.unpackBytes
    rw [if_neg (by simp), show Bytes.idx (b :: t) 0 = .ok b from rfl, Res.ok_bind']
    dsimp only
    cases hk : isUnknown (ubType v b)
    · have hs : t.length + 1 < hdrLen v (ubType v b) := by simpa [hk] using hl
      rw [if_neg (by decide), if_pos (by rw [List.length_cons]; omega), if_neg (by decide), if_pos hs]
    · rfl

theorem Header.unpackBytes_bodyLength_lt (v : Ver) (bs : Bytes) (H : Header) (d : Bytes) (h : Header.unpackBytes v bs = .ok (H, d)) :
    H.bodyLength.toNat < 16777216 := by
  cases bs with
  | nil => rw [Header.unpackBytes_nil] at h; cases h
  | cons b0 rest =>
    rw [Header.unpackBytes_cons] at h
    split at h
    · cases h
    · split at h
      · cases h
      · -- not `cases h`: unifying the two headers would unfold `restAbs`
        injection h with h; injection h with h1 _
        rw [← h1]; exact restAbs_bodyLength_lt v (parse0 v {} b0) rest

/-- the `metadata_len` field: v2 only. A definition, so that the `match` is the same constant wherever the field is written
(`rw` does not unify the matchers of two statements) -/
def mlBytes (v : Ver) (n : Nat) : Bytes := match v with | .v1 => [] | .v2 => be n 2

theorem stRid_be (h : Header) (n : Nat) (r : Bytes) :
    stRid (h, (if h.type == tReq || h.type == tResp then be n 4 else []) ++ r) =
      ({ h with requestId := if h.type == tReq || h.type == tResp then UInt32.ofNat n else h.requestId }, r) := by
  unfold stRid; split <;> simp only [Q.u32_be, drop_be, List.nil_append, *]
theorem stTimeout_be (h : Header) (n : Nat) (r : Bytes) :
    stTimeout (h, (if h.type == tReq then be n 2 else []) ++ r) =
      ({ h with timeout := if h.type == tReq then UInt16.ofNat n else h.timeout }, r) := by
  unfold stTimeout; split <;> simp only [Q.u16_be, drop_be, List.nil_append, *]
theorem stStatus_be (h : Header) (n : Nat) (r : Bytes) :
    stStatus (h, (if h.type == tResp then be n 1 else []) ++ r) =
      ({ h with statusCode := if h.type == tResp then UInt8.ofNat n else h.statusCode }, r) := by
  unfold stStatus; split <;> simp only [Q.u8_be, drop_be, List.nil_append, *]
theorem stMdLen_be (v : Ver) (h : Header) (n : Nat) (r : Bytes) :
    stMdLen v (h, mlBytes v n ++ r) =
      ({ h with metadataLength := match v with | .v1 => h.metadataLength | .v2 => UInt16.ofNat n }, r) := by
  cases v
  · rfl
  · simp only [stMdLen, mlBytes, Q.u16_be, drop_be]
theorem stLen_be {v : Ver} {h : Header} {n : Nat} (hn : n < 16777216) (r : Bytes) :
    stLen v (h, be n 3 ++ r) = ({ h with bodyLength := UInt32.ofNat n }, r) := by
  obtain ⟨a, b, c, e, hr⟩ := rd24_be n hn r
  simp only [stLen, e, b3, usBodyLen_rd24, hr, List.drop_succ_cons, List.drop_zero]

/-- both versions and all types at once: which fields are there is the same test on `h.type` in the reader and in the bytes -/
theorem restAbs_be {v : Ver} {h : Header} {cmd rid tmo sta ml bl : Nat} (hbl : bl < 16777216) (r : Bytes) :
    restAbs v h (UInt8.ofNat cmd ::
        ((if h.type == tReq || h.type == tResp then be rid 4 else []) ++ ((if h.type == tReq then be tmo 2 else []) ++
         ((if h.type == tResp then be sta 1 else []) ++ (mlBytes v ml ++ (be bl 3 ++ r)))))) =
      ({ h with isUnpacked := true, cmdCode := UInt8.ofNat cmd,
                requestId := if h.type == tReq || h.type == tResp then UInt32.ofNat rid else h.requestId,
                timeout := if h.type == tReq then UInt16.ofNat tmo else h.timeout,
                statusCode := if h.type == tResp then UInt8.ofNat sta else h.statusCode,
                metadataLength := match v with | .v1 => h.metadataLength | .v2 => UInt16.ofNat ml,
                bodyLength := UInt32.ofNat bl }, r) := by
  have e : ∀ q, stCmd (h, UInt8.ofNat cmd :: q) = ({ h with isUnpacked := true, cmdCode := UInt8.ofNat cmd }, q) := fun _ => rfl
  let h1 : Header := { h with isUnpacked := true, cmdCode := UInt8.ofNat cmd }
  let h2 : Header := { h1 with requestId := if h.type == tReq || h.type == tResp then UInt32.ofNat rid else h.requestId }
  let h3 : Header := { h2 with timeout := if h.type == tReq then UInt16.ofNat tmo else h.timeout }
  rw [restAbs, e, stRid_be h1, stTimeout_be h2, stStatus_be h3, stMdLen_be, stLen_be hbl]

end Frame
end OAP
