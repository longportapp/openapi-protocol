/-
The streaming decoder over a plain byte queue (`unpackAbs`) and its laws, from which chunking independence follows. No ring buffer
occurs here: that the decoder over the ring computes exactly `unpackAbs` on the queue the ring holds is OAP/Proofs/StreamRing.lean.
Definitions the property statements (C01, C03, C04b, C20) are phrased with, in order: `needLen`, `bodyFull`, `unpackAbs` (one call
over the queue), `Parked` / `PendOK` (the headers the decoder itself parks), `s_hdrBytes` / `unread` (the undelivered stream as a
function of the state), `sresToRes`, `run` / `drain` (the read loop over the queue; `run` terminates by `unpack_pkt_lt`, hence its
place), `Conn` / `feed`.
-/
import OAP.Model.Stream
import OAP.Proofs.Frame
namespace OAP
namespace Frame

theorem split_at {α} (n : Nat) (l : List α) (h : n ≤ l.length) : ∃ w q, l = w ++ q ∧ w.length = n :=
  ⟨l.take n, l.drop n, (List.take_append_drop n l).symm, by rw [List.length_take]; omega⟩

/-- `mdLenOf` of OAP/Proofs/Frame.lean under a second name (`s_mdLenOf_eq`) -/
def s_mdLenOf (v : Ver) (h : Header) : Nat := match v with | .v1 => 0 | .v2 => h.metadataLength.toNat
/-- bytes that must be queued after the header before the frame is complete -/
def needLen (v : Ver) (h : Header) : Nat :=
  h.bodyLength.toNat + s_mdLenOf v h + (if h.verify == 1 then trailerLen else 0)

theorem s_mdLenOf_eq (v : Ver) (h : Header) : s_mdLenOf v h = mdLenOf v h := by cases v <;> rfl

/-- the body phase over the queue once the whole frame is queued (`needLen v h ≤ q.length`). The queue left after an error is
what the ring holds where `unpackBody` returns it: metadata and body taken for a metadata error, the trailer too for a decompression
error -/
def bodyFull (v : Ver) (gz : GzOracle) (codec : UInt8) (h : Header) (q : Bytes) : SRes × Option Header × Bytes :=
  let md := q.take (s_mdLenOf v h)
  let q1 := q.drop (s_mdLenOf v h)
  let body := q1.take h.bodyLength.toNat
  let q2 := q1.drop h.bodyLength.toNat
  match withValues v { Header.toPacket h codec with body := body } md with
  | .err e => (.err e, none, q2)
  | .panic w => (.panic w, none, q2)
  | .ok p =>
    let p1 : Packet := if h.verify == 1 then { p with nonce := Q.u64 q2, signature := (q2.drop 8).take 16 } else p
    let q3 := if h.verify == 1 then (q2.drop 8).drop 16 else q2
    if h.gzip == 1 then
      match Gzip.decompress gz p1.body with
      | .ok b => (.pkt { p1 with body := b }, none, q3)
      | .err e => (.err e, none, q3)
      | .panic w => (.panic w, none, q3)
    else (.pkt p1, none, q3)

def bodyAbs (v : Ver) (gz : GzOracle) (codec : UInt8) (h : Header) (q : Bytes) : SRes × Option Header × Bytes :=
  if q.length < needLen v h then (.more, some h, q) else bodyFull v gz codec h q

/-- a call once byte 0 is in the header `s.1` and `s.2` is queued: unknown type, header incomplete, or on to the body (what the ring
decoder's `finish (hdrTail …)` computes: `finish_tail_abs`, OAP/Proofs/StreamRing.lean) -/
def tailAbs (v : Ver) (gz : GzOracle) (codec : UInt8) (s : Header × Bytes) : SRes × Option Header × Bytes :=
  if isUnknown s.1.type then (.err "invalid packet type", none, s.2)
  else if s.2.length < hdrLen v s.1.type - 1 then (.more, some s.1, s.2)
  else bodyAbs v gz codec (restAbs v s.1 s.2).1 (restAbs v s.1 s.2).2

/-- one call of `protocolVx.Unpack` over a plain byte queue: result, parked header, remaining queue -/
def unpackAbs (v : Ver) (gz : GzOracle) (codec : UInt8) (pend : Option Header) (q : Bytes) :
    SRes × Option Header × Bytes :=
  let h := pend.getD {}
  if h.isUnpacked then bodyAbs v gz codec h q
  else if q.length = 0 then (.more, some h, q)
  else tailAbs v gz codec (if h.beginUnpack then (h, q) else (parse0 v h (Q.u8 q), q.drop 1))

theorem decompress_ne_panic {gz : GzOracle} {bs : Bytes} {w : String} : Gzip.decompress gz bs ≠ .panic w := by
  rcases decompress_cases gz bs with ⟨c, _, h⟩ | ⟨_, h⟩ <;> rw [h] <;> simp

def OutOK (o : SRes × Option Header × Bytes) : Prop := (∀ w, o.1 ≠ .panic w) ∧ (o.1 ≠ .more → o.2.1 = none)

theorem outOK_more {p : Option Header} {q : Bytes} : OutOK (.more, p, q) := ⟨by simp, by simp⟩

section
variable {v : Ver} {gz : GzOracle} {codec : UInt8}

theorem bodyFull_res {h : Header} {q : Bytes} :
    (bodyFull v gz codec h q).2.1 = none ∧ (bodyFull v gz codec h q).1 ≠ .more ∧
      ∀ w, (bodyFull v gz codec h q).1 ≠ .panic w := by
  unfold bodyFull
  simp only
  split
  · simp
  · rename_i w hw; cases hw ▸ withValues_noPanic ..
  · split
    · split
      · simp
      · simp
      · rename_i w hw; exact absurd hw decompress_ne_panic
    · simp

theorem bodyAbs_outOK {h : Header} {q : Bytes} : OutOK (bodyAbs v gz codec h q) := by
  unfold bodyAbs; split
  · exact outOK_more
  · exact ⟨bodyFull_res.2.2, fun _ => bodyFull_res.1⟩

theorem tailAbs_outOK {s : Header × Bytes} : OutOK (tailAbs v gz codec s) := by
  unfold tailAbs; split
  · exact ⟨by simp, fun _ => rfl⟩
  · split
    · exact outOK_more
    · exact bodyAbs_outOK

end

section
variable (v : Ver) (gz : GzOracle) (codec : UInt8)

theorem unpackAbs_outOK (pend : Option Header) (q : Bytes) :
    OutOK (unpackAbs v gz codec pend q) := by
  unfold unpackAbs; simp only; split
  · exact bodyAbs_outOK
  · split
    · exact outOK_more
    · exact tailAbs_outOK

theorem unpackAbs_ne_panic (pend : Option Header) (q : Bytes) (w : String) :
    (unpackAbs v gz codec pend q).1 ≠ .panic w := (unpackAbs_outOK v gz codec pend q).1 w

theorem unpackAbs_pend_none (pend : Option Header) (q : Bytes)
    (hm : (unpackAbs v gz codec pend q).1 ≠ .more) : (unpackAbs v gz codec pend q).2.1 = none :=
  (unpackAbs_outOK v gz codec pend q).2 hm

theorem u64_append (l c : Bytes) (h : 8 ≤ l.length) : Q.u64 (l ++ c) = Q.u64 l := by
  iterate 8 decons h
  simp [Q.u64]

theorem bodyFull_append (h : Header) (r c : Bytes)
    (hl : needLen v h ≤ r.length) :
    bodyFull v gz codec h (r ++ c) =
      ((bodyFull v gz codec h r).1, (bodyFull v gz codec h r).2.1, (bodyFull v gz codec h r).2.2 ++ c) := by
  simp only [needLen] at hl
  have htl := trailerLen_eq
  have tk : ∀ (l : Bytes) (n : Nat), n ≤ l.length → (l ++ c).take n = l.take n := fun _ _ => List.take_append_of_le_length
  have dr : ∀ (l : Bytes) (n : Nat), n ≤ l.length → (l ++ c).drop n = l.drop n ++ c := fun _ _ => List.drop_append_of_le_length
  have e1 := tk r (s_mdLenOf v h) (by omega)
  have e2 := dr r (s_mdLenOf v h) (by omega)
  have e3 := tk (r.drop (s_mdLenOf v h)) h.bodyLength.toNat (by rw [List.length_drop]; omega)
  have e4 := dr (r.drop (s_mdLenOf v h)) h.bodyLength.toNat (by rw [List.length_drop]; omega)
  unfold bodyFull
  simp only [e1, e2, e3, e4]
  cases hwv : withValues v { Header.toPacket h codec with body := (r.drop (s_mdLenOf v h)).take h.bodyLength.toNat } (r.take (s_mdLenOf v h)) with
  | err e => rfl
  | panic w => rfl
  | ok p =>
    simp only
    by_cases hv : (h.verify == 1) = true
    · simp only [hv, ↓reduceIte] at hl ⊢
      have e5 := u64_append ((r.drop (s_mdLenOf v h)).drop h.bodyLength.toNat) c (by simp only [List.length_drop]; omega)
      have e6 := dr ((r.drop (s_mdLenOf v h)).drop h.bodyLength.toNat) 8 (by simp only [List.length_drop]; omega)
      have e7 := tk (((r.drop (s_mdLenOf v h)).drop h.bodyLength.toNat).drop 8) 16 (by simp only [List.length_drop]; omega)
      have e8 := dr (((r.drop (s_mdLenOf v h)).drop h.bodyLength.toNat).drop 8) 16 (by simp only [List.length_drop]; omega)
      simp only [e5, e6, e7, e8]
      split
      · split <;> rfl
      · rfl
    · simp only [hv, Bool.false_eq_true, ↓reduceIte]
      split
      · split <;> rfl
      · rfl

theorem bodyFull_rest (h : Header) (q : Bytes) (k : Packet)
    (hp : (bodyFull v gz codec h q).1 = .pkt k) : (bodyFull v gz codec h q).2.2 = q.drop (needLen v h) := by
  unfold bodyFull at hp ⊢
  cases hwv : withValues v { Header.toPacket h codec with body := (q.drop (s_mdLenOf v h)).take h.bodyLength.toNat } (q.take (s_mdLenOf v h)) with
  | err e => simp [hwv] at hp
  | panic w => simp [hwv] at hp
  | ok p =>
    simp only [hwv] at hp ⊢
    by_cases hv : (h.verify == 1) = true
    · have : needLen v h = s_mdLenOf v h + h.bodyLength.toNat + 8 + 16 := by
        simp only [needLen, hv, ↓reduceIte, trailerLen_eq]; omega
      simp only [hv, ↓reduceIte, this, List.drop_drop] at hp ⊢
      split
      · split <;> first | rfl | simp_all
      · rfl
    · have : needLen v h = s_mdLenOf v h + h.bodyLength.toNat := by
        simp only [needLen, hv, Bool.false_eq_true, ↓reduceIte]; omega
      simp only [hv, Bool.false_eq_true, ↓reduceIte, this, List.drop_drop] at hp ⊢
      split
      · split <;> first | rfl | simp_all
      · rfl

end

/-- `Parked v pend u`: `pend` is what the decoder parks in the context after having consumed exactly
the bytes `u` of the current frame, starting from a fresh context. A parked complete header
always belongs to a frame with something still to read (`0 < needLen`): a call that completes a
header goes on to the body in the same call, and an empty remainder is delivered at once.
`idle`: a call that finds the queue empty parks the fresh header it took from the pool (`some {}`);
every later call treats it as `none` (`unpack_unread`). -/
inductive Parked (v : Ver) : Option Header → Bytes → Prop
  | fresh : Parked v none []
  | idle : Parked v (some {}) []
  | byte0 (b : UInt8) : isUnknown (usType v b) = false → Parked v (some (parse0 v {} b)) [b]
  | header (b : UInt8) (w : Bytes) : isUnknown (usType v b) = false →
      w.length = hdrLen v (usType v b) - 1 →
      0 < needLen v (restAbs v (parse0 v {} b) w).1 →
      Parked v (some (restAbs v (parse0 v {} b) w).1) (b :: w)

def PendOK (v : Ver) (pend : Option Header) : Prop := ∃ u, Parked v pend u

abbrev hdrAt (v : Ver) (b : UInt8) (w : Bytes) : Header := (restAbs v (parse0 v {} b) w).1

section
variable (v : Ver) (gz : GzOracle) (codec : UInt8)

theorem pendOK_none : PendOK v none := ⟨[], .fresh⟩

theorem unpackAbs_nil :
    unpackAbs v gz codec none [] = (.more, some {}, []) := by
  simp [unpackAbs]

theorem unpackAbs_cons (b : UInt8) (t : Bytes) :
    unpackAbs v gz codec none (b :: t) = tailAbs v gz codec (parse0 v {} b, t) := by
  simp [unpackAbs, Q.u8]

theorem unpack_fresh_unknown (b : UInt8) (t : Bytes)
    (hk : isUnknown (usType v b) = true) :
    unpackAbs v gz codec none (b :: t) = (.err "invalid packet type", none, t) := by
  rw [unpackAbs_cons]; simp [tailAbs, hk]

theorem unpack_fresh_hdr (b : UInt8) (w q : Bytes)
    (hk : isUnknown (usType v b) = false) (hw : w.length = hdrLen v (usType v b) - 1) :
    unpackAbs v gz codec none (b :: (w ++ q)) = bodyAbs v gz codec (hdrAt v b w) q := by
  rw [unpackAbs_cons, tailAbs, if_neg (by simp [hk]), restAbs_append v (parse0 v {} b) w q hk hw,
    if_neg (by simp only [List.length_append, parse0_type]; omega)]

theorem unpack_fresh_frame (b : UInt8) (w d c : Bytes)
    (hk : isUnknown (usType v b) = false) (hw : w.length = hdrLen v (usType v b) - 1)
    (hd : d.length = needLen v (hdrAt v b w)) :
    unpackAbs v gz codec none (b :: (w ++ (d ++ c))) =
      ((bodyFull v gz codec (hdrAt v b w) d).1, none, (bodyFull v gz codec (hdrAt v b w) d).2.2 ++ c) := by
  rw [unpack_fresh_hdr v gz codec b w _ hk hw, bodyAbs, if_neg (by rw [List.length_append]; omega),
    bodyFull_append v gz codec _ d c (by omega), bodyFull_res.1]

end

/-- `Fresh v gz codec u o`: what a call from a fresh context does, by the shape of the queue `u`. Every law of a fresh call
is read off `fresh`. -/
inductive Fresh (v : Ver) (gz : GzOracle) (codec : UInt8) : Bytes → SRes × Option Header × Bytes → Prop
  | nil : Fresh v gz codec [] (.more, some {}, [])
  | unknown (b t) : isUnknown (usType v b) = true → Fresh v gz codec (b :: t) (.err "invalid packet type", none, t)
  | byte0 (b t) : isUnknown (usType v b) = false → t.length < hdrLen v (usType v b) - 1 →
      Fresh v gz codec (b :: t) (.more, some (parse0 v {} b), t)
  | wait (b w q) : isUnknown (usType v b) = false → w.length = hdrLen v (usType v b) - 1 →
      q.length < needLen v (hdrAt v b w) → Fresh v gz codec (b :: (w ++ q)) (.more, some (hdrAt v b w), q)
  | frame (b w d c s r) : isUnknown (usType v b) = false → w.length = hdrLen v (usType v b) - 1 →
      d.length = needLen v (hdrAt v b w) → (bodyFull v gz codec (hdrAt v b w) d).1 = s →
      (bodyFull v gz codec (hdrAt v b w) d).2.2 = r → Fresh v gz codec (b :: (w ++ (d ++ c))) (s, none, r ++ c)

theorem fresh {v : Ver} {gz : GzOracle} {codec : UInt8} {u : Bytes} {o : SRes × Option Header × Bytes}
    (h : unpackAbs v gz codec none u = o) : Fresh v gz codec u o := by
  subst h
  cases u with
  | nil => rw [unpackAbs_nil]; exact .nil
  | cons b t =>
    cases hk : isUnknown (usType v b) with
    | true => rw [unpack_fresh_unknown v gz codec b t hk]; exact .unknown b t hk
    | false =>
      by_cases hl : t.length < hdrLen v (usType v b) - 1
      · rw [unpackAbs_cons, tailAbs, if_neg (by simp [hk]), if_pos (by exact hl)]; exact .byte0 b t hk hl
      · obtain ⟨w, q, rfl, hw⟩ := split_at (hdrLen v (usType v b) - 1) t (by omega)
        by_cases hq : q.length < needLen v (hdrAt v b w)
        · rw [unpack_fresh_hdr v gz codec b w q hk hw, bodyAbs, if_pos hq]; exact .wait b w q hk hw hq
        · obtain ⟨d, c, rfl, hd⟩ := split_at (needLen v (hdrAt v b w)) q (by omega)
          rw [unpack_fresh_frame v gz codec b w d c hk hw hd]; exact .frame b w d c _ _ hk hw hd rfl rfl

/-- KEY LEMMA: a call depends only on the undelivered bytes — resuming from a parked header is
the same as decoding the re-assembled stream from scratch. -/
theorem unpack_unread (v : Ver) (gz : GzOracle) (codec : UInt8) (pend : Option Header) (u q : Bytes)
    (hp : Parked v pend u) :
    unpackAbs v gz codec pend q = unpackAbs v gz codec none (u ++ q) := by
  cases hp with
  | fresh => rfl
  | idle => rfl
  | byte0 b hk =>
    rw [List.singleton_append, unpackAbs_cons]
    cases q with
    | nil =>
      have : 0 < hdrLen v (usType v b) - 1 := by have := hdrLen_ge v (usType v b); omega
      simp [unpackAbs, parse0, tailAbs, hk, this]
    | cons a q => simp [unpackAbs, parse0]
  | header b w hk hw hn =>
    rw [List.cons_append, unpack_fresh_hdr v gz codec b w q hk hw]
    simp [unpackAbs, restAbs_isUnpacked]

/-- a `more` result from a fresh state parks exactly the bytes it has taken off the queue -/
theorem unpack_more_unread (v : Ver) (gz : GzOracle) (codec : UInt8) (u : Bytes) (p' : Option Header) (q' : Bytes)
    (h : unpackAbs v gz codec none u = (.more, p', q')) : ∃ u', Parked v p' u' ∧ u' ++ q' = u := by
  cases fresh h with
  | nil => exact ⟨[], .idle, rfl⟩
  | byte0 b t hk => exact ⟨[b], .byte0 b hk, rfl⟩
  | wait b w q hk hw hq => exact ⟨b :: w, .header b w hk hw (Nat.lt_of_le_of_lt (Nat.zero_le _) hq), rfl⟩
  | frame b w d c _ r _ _ _ hs => exact absurd hs bodyFull_res.2.1

section
variable (v : Ver) (gz : GzOracle) (codec : UInt8)

theorem pendOK_preserved (pend : Option Header) (q : Bytes)
    (hp : PendOK v pend) : PendOK v (unpackAbs v gz codec pend q).2.1 := by
  obtain ⟨u, hu⟩ := hp
  by_cases hm : (unpackAbs v gz codec pend q).1 = .more
  · rw [unpack_unread v gz codec pend u q hu] at hm ⊢
    obtain ⟨u', hu', _⟩ := unpack_more_unread v gz codec (u ++ q) _ _ (Prod.ext hm rfl)
    exact ⟨u', hu'⟩
  · rw [unpackAbs_pend_none v gz codec pend q hm]; exact pendOK_none v

theorem unpack_append (u c : Bytes) {s : SRes} {p' : Option Header}
    {r : Bytes} (h : unpackAbs v gz codec none u = (s, p', r)) (hs : s ≠ .more) :
    unpackAbs v gz codec none (u ++ c) = (s, p', r ++ c) := by
  cases fresh h with
  | nil | byte0 | wait => exact absurd rfl hs
  | unknown b t hk => exact unpack_fresh_unknown v gz codec b _ hk
  | frame b w d c' _ r hk hw hd h1 h2 =>
    rw [List.cons_append, List.append_assoc, List.append_assoc, unpack_fresh_frame v gz codec b w d _ hk hw hd,
      List.append_assoc, h1, h2]

theorem pushLen_le_hdrLen (t : UInt8) : pushLen v ≤ hdrLen v t := by
  unfold hdrLen; cases v <;> (repeat' split) <;> decide

theorem frame_assoc (b : UInt8) (w d r : Bytes) : b :: (w ++ (d ++ r)) = (b :: (w ++ d)) ++ r := by simp

theorem unpack_pkt_frame (u : Bytes) (k : Packet)
    (p' : Option Header) (r : Bytes) (h : unpackAbs v gz codec none u = (.pkt k, p', r)) :
    ∃ b w d, u = b :: (w ++ (d ++ r)) ∧ isUnknown (usType v b) = false ∧ w.length = hdrLen v (usType v b) - 1 ∧
      d.length = needLen v (hdrAt v b w) ∧ (bodyFull v gz codec (hdrAt v b w) d).1 = .pkt k ∧ p' = none := by
  cases fresh h with
  | frame b w d c _ r hk hw hd h1 h2 =>
    have := bodyFull_rest v gz codec _ d k h1
    rw [← hd, List.drop_length, h2] at this
    rw [this]
    exact ⟨b, w, d, rfl, hk, hw, hd, h1, rfl⟩

end

/-- progress: every packet reported from a fresh state consumes at least a whole (push) header -/
theorem unpack_pkt_lt (v : Ver) (gz : GzOracle) (codec : UInt8) (u : Bytes) (k : Packet)
    (p' : Option Header) (r : Bytes) (h : unpackAbs v gz codec none u = (.pkt k, p', r)) :
    r.length + pushLen v ≤ u.length := by
  obtain ⟨b, w, d, rfl, _, hw, _⟩ := unpack_pkt_frame v gz codec u k p' r h
  have := pushLen_le_hdrLen v (usType v b)
  simp only [List.length_cons, List.length_append]; omega

theorem unpack_pkt_progress (v : Ver) (gz : GzOracle) (codec : UInt8) (pend : Option Header) (u q : Bytes)
    (k : Packet) (p' : Option Header) (r : Bytes) (hp : Parked v pend u)
    (h : unpackAbs v gz codec pend q = (.pkt k, p', r)) :
    r.length < q.length ∧ r.length + pushLen v ≤ (u ++ q).length ∧ p' = none := by
  rw [unpack_unread v gz codec pend u q hp] at h
  obtain ⟨b, w, d, e, _, hw, hd, _, hpn⟩ := unpack_pkt_frame v gz codec _ k p' r h
  refine ⟨?_, unpack_pkt_lt v gz codec _ k p' r h, hpn⟩
  have hpos := hdrLen_ge v (usType v b)
  cases hp with
  | fresh | idle => rw [List.nil_append] at e; rw [e]; simp only [List.length_cons, List.length_append]; omega
  | byte0 b' hk' =>
    rw [List.singleton_append, List.cons.injEq] at e
    rw [e.2]; simp only [List.length_append]; omega
  | header b' w' hk' hw' hn =>
    rw [List.cons_append, List.cons.injEq] at e
    obtain ⟨rfl, e⟩ := e
    obtain ⟨rfl, rfl⟩ := List.append_inj e (hw'.trans hw.symm)
    have : 0 < d.length := hd ▸ hn
    simp only [List.length_append]; omega

theorem packB0_us_tab : ∀ b : UInt8,
    Gen.v1PackB0 (Gen.v1UsType b) (Gen.v1UsVerify b) (Gen.v1UsGzip b) (Gen.v1UsReserve b) = b :=
  forall_byte (by decide +kernel)

theorem packB0_us (v : Ver) (b : UInt8) : packB0 v (usType v b) (usVerify v b) (usGzip v b) (usReserve v b) = b := by
  cases v <;> exact packB0_us_tab b

/-- the bytes already taken off the stream into the parked header: the header re-encoded by the
codec's own `Header.Pack` (nothing before byte 0, byte 0 alone until the header is complete) -/
def s_hdrBytes (v : Ver) : Option Header → Bytes
  | none => []
  | some h =>
    if !h.beginUnpack then []
    else if !h.isUnpacked then [packB0 v h.type h.verify h.gzip h.reserve]
    else match Header.pack v h with
      | .ok bs => bs
      | _ => []

/-- the undelivered stream: parked header bytes, then the queue -/
def unread (v : Ver) (pend : Option Header) (q : Bytes) : Bytes := s_hdrBytes v pend ++ q

theorem pack_restAbs (v : Ver) (b : UInt8) (w : Bytes) (hk : isUnknown (usType v b) = false)
    (hw : w.length = hdrLen v (usType v b) - 1) :
    Header.pack v (restAbs v (parse0 v {} b) w).1 = .ok (b :: w) := by
  have hb0 := packB0_us v b
  have hlt : ∀ x y z : UInt8, ¬ 16777215 < (rd24 x y z).toNat := fun x y z => by
    have := rd24_lt x y z; omega
  generalize ht : usType v b = t at hk hw hb0
  cases hdrShape v t w hk hw <;>
    simp [Header.pack, restAbs, stCmd, stRid, stTimeout, stStatus, stMdLen, stLen, parse0, ht, tconsts,
      Q.u8, Q.u16, Q.u32, b3, usBodyLen_rd24, packLen_eq, rd32_be32, rd16_be16, rd24_be24, maxBody_eq, hlt, hb0]

theorem parked_hdrBytes (v : Ver) (pend : Option Header) (u : Bytes) (hp : Parked v pend u) :
    s_hdrBytes v pend = u := by
  cases hp with
  | fresh => rfl
  | idle => rfl
  | byte0 b hk => simp [s_hdrBytes, parse0, packB0_us]
  | header b w hk hw hn =>
    have hpk := pack_restAbs v b w hk hw
    have hbu : (restAbs v (parse0 v {} b) w).1.beginUnpack = true := by rw [restAbs_beginUnpack]; rfl
    simp only [s_hdrBytes, hbu, restAbs_isUnpacked, Bool.not_true, Bool.false_eq_true, ↓reduceIte, hpk]

theorem parked_iff (v : Ver) (pend : Option Header) : PendOK v pend ↔ Parked v pend (s_hdrBytes v pend) := by
  constructor
  · rintro ⟨u, hu⟩; rw [parked_hdrBytes v pend u hu]; exact hu
  · exact fun h => ⟨_, h⟩

theorem pure_eq' {α} (a : α) : (pure a : Res α) = .ok a := by
  show Res.ok a = Res.ok a
  exact (rfl : Res.ok a = Res.ok a)

theorem coreHdr_toPacket (h : Header) (codec : UInt8) : Header.toPacket (coreHdr h) codec = Header.toPacket h codec := rfl

/-- a streaming result as a one-shot result; `.more` has no counterpart there and gets an error no decoder returns (the statements
that use this are about whole frames, where `bodyFull` never says `.more`: `bodyFull_res`) -/
def sresToRes : SRes → Res Packet
  | .pkt k => .ok k
  | .err e => .err e
  | .panic w => .panic w
  | .more => .err "more"

section
variable (v : Ver) (gz : GzOracle) (codec : UInt8)

theorem verifyStage_exact (h : Header) (data : Bytes) (n : Nat) (p : Packet) (hv : (h.verify == 1) = true)
    (hl : data.length = n + 24) :
    verifyStage h data n p =
      .ok { p with nonce := Q.u64 (data.drop n), signature := ((data.drop n).drop 8).take 16 } := by
  rw [verifyStage_eq, if_pos hv, if_neg (by omega), List.drop_drop, List.take_of_length_le (by rw [List.length_drop]; omega)]

/-- stage by stage: `withValues`, `verifyStage`, `gzStage` -/
theorem oneShotBody_bodyFull (h : Header) (data : Bytes)
    (hlen : data.length = needLen v h) :
    oneShotBody v gz codec (coreHdr h) data = sresToRes (bodyFull v gz codec h data).1 := by
  have htl := trailerLen_eq
  have hm : mdLenOf v (coreHdr h) = s_mdLenOf v h := (s_mdLenOf_eq v _).symm
  have hg : ¬ data.length < (coreHdr h).bodyLength.toNat + mdLenOf v (coreHdr h) := by
    rw [hm]; show ¬ _ < h.bodyLength.toNat + s_mdLenOf v h
    rw [hlen, needLen]; omega
  rw [oneShotBody_long v gz codec _ data hg, hm, List.drop_take, Nat.add_sub_cancel]
  simp only [bodyFull, show (coreHdr h).bodyLength = h.bodyLength from rfl, coreHdr_toPacket]
  split
  · rename_i hw; rw [hw]; rfl
  · rename_i hw; rw [hw]; rfl
  · rename_i p hw
    rw [hw, Res.ok_bind']
    have hgz : ∀ (p : Packet) (q : Bytes), gzStage gz (coreHdr h) p = sresToRes
        (if (h.gzip == 1) = true then
          match Gzip.decompress gz p.body with
          | .ok b => (SRes.pkt { p with body := b }, (none : Option Header), q)
          | .err e => (.err e, none, q)
          | .panic w => (.panic w, none, q)
        else (.pkt p, none, q)).1 := by
      intro p q; unfold gzStage; show (if (h.gzip == 1) = true then _ else _) = _
      split
      · cases Gzip.decompress gz p.body <;> rfl
      · rfl
    by_cases hv : (h.verify == 1) = true
    · rw [verifyStage_exact (coreHdr h) data _ p hv (by rw [hlen, needLen, hv]; simp only [↓reduceIte]; omega)]
      simp only [Res.ok_bind', hv, ↓reduceIte, List.drop_drop, Nat.add_comm]
      exact hgz _ _
    · rw [verifyStage_off (coreHdr h) data _ p (Bool.eq_false_iff.mpr hv)]
      simp only [Res.ok_bind', hv, Bool.false_eq_true, ↓reduceIte]
      exact hgz _ _

theorem unpackBytes_body (bs : Bytes) (h : Header) (data : Bytes)
    (hh : Header.unpackBytes v bs = .ok (coreHdr h, data)) (hlen : data.length = needLen v h) :
    unpackBytes v gz codec bs = sresToRes (bodyFull v gz codec h data).1 := by
  rw [unpackBytes_eq, hh, Res.ok_bind']
  exact oneShotBody_bodyFull v gz codec h data hlen

theorem stream_matches_oneshot_abs (u : Bytes) (k : Packet)
    (p' : Option Header) (r : Bytes) (h : unpackAbs v gz codec none u = (.pkt k, p', r)) :
    ∃ n, n ≤ u.length ∧ r = u.drop n ∧ unpackBytes v gz codec (u.take n) = .ok k := by
  obtain ⟨b, w, d, rfl, hk, hw, hd, hp, _⟩ := unpack_pkt_frame v gz codec u k p' r h
  rw [frame_assoc]
  refine ⟨(b :: (w ++ d)).length, by simp, by rw [List.drop_left], ?_⟩
  rw [List.take_left, unpackBytes_body v gz codec _ _ d (unpackBytes_hdr_append v b w d hk hw) hd, hp]; rfl

end

/-- how a drain ends: the last, non-packet result, the header left parked, the bytes left queued -/
abbrev End := SRes × Option Header × Bytes

theorem pushLen_pos (v : Ver) : 0 < pushLen v := by cases v <;> decide

/-- the read loop from a fresh context: call `Unpack` until it stops reporting packets.
Terminates because every reported packet consumes at least a header (`unpack_pkt_lt`). -/
def run (v : Ver) (gz : GzOracle) (codec : UInt8) (u : Bytes) : List Packet × End :=
  match _hu : unpackAbs v gz codec none u with
  | (.pkt k, _, r) => (k :: (run v gz codec r).1, (run v gz codec r).2)
  | e => ([], e)
termination_by u.length
decreasing_by
  have := unpack_pkt_lt v gz codec u k _ r _hu
  have := pushLen_pos v
  omega

/-- the read loop from any context: the first call resumes the parked header -/
def drain (v : Ver) (gz : GzOracle) (codec : UInt8) (pend : Option Header) (q : Bytes) : List Packet × End :=
  match unpackAbs v gz codec pend q with
  | (.pkt k, _, r) => (k :: (run v gz codec r).1, (run v gz codec r).2)
  | e => ([], e)

section
variable (v : Ver) (gz : GzOracle) (codec : UInt8)

theorem run_eq_drain (u : Bytes) :
    run v gz codec u = drain v gz codec none u := by
  rw [run, drain]
  split <;> simp_all

theorem run_nil :
    run v gz codec [] = ([], (.more, some {}, [])) := by
  rw [run_eq_drain, drain, unpackAbs_nil]

theorem run_pkt {u : Bytes} {k : Packet} {p' : Option Header} {r : Bytes}
    (h : unpackAbs v gz codec none u = (.pkt k, p', r)) :
    run v gz codec u = (k :: (run v gz codec r).1, (run v gz codec r).2) := by
  rw [run_eq_drain, drain, h]

theorem run_unknown (b : UInt8) (t : Bytes) (hk : isUnknown (usType v b) = true) :
    run v gz codec (b :: t) = ([], (.err "invalid packet type", none, t)) := by
  rw [run_eq_drain, drain, unpack_fresh_unknown v gz codec b t hk]

/-! In `fun_induction run`, `case1` is "a packet, then the loop on the rest", `case2` "the call's own outcome". -/

theorem run_ne_panic (w : String) (u : Bytes) :
    (run v gz codec u).2.1 ≠ .panic w := by
  fun_induction run v gz codec u with
  | case1 _ _ _ _ _ ih => exact ih
  | case2 u _ => exact unpackAbs_ne_panic v gz codec none u w

theorem run_pendOK (u : Bytes) : PendOK v (run v gz codec u).2.2.1 := by
  fun_induction run v gz codec u with
  | case1 _ _ _ _ _ ih => exact ih
  | case2 u _ => exact pendOK_preserved v gz codec none u (pendOK_none v)

theorem run_more_suffix (u : Bytes) (hm : (run v gz codec u).2.1 = .more) :
    ∃ k, unread v (run v gz codec u).2.2.1 (run v gz codec u).2.2.2 = u.drop k := by
  fun_induction run v gz codec u with
  | case1 u k p r hu ih =>
    obtain ⟨j, hj⟩ := ih hm
    obtain ⟨b, w, d, rfl, _⟩ := unpack_pkt_frame v gz codec u k p r hu
    exact ⟨(b :: (w ++ d)).length + j, by rw [hj, ← List.drop_drop, frame_assoc, List.drop_left]⟩
  | case2 u _ =>
    obtain ⟨u', hpk, hu'⟩ := unpack_more_unread v gz codec u _ _ (Prod.ext hm rfl)
    exact ⟨0, by rw [unread, parked_hdrBytes v _ u' hpk, hu', List.drop_zero]⟩

end

/-- resumption: draining from a parked header is draining the re-assembled stream from scratch -/
theorem drain_spec (v : Ver) (gz : GzOracle) (codec : UInt8) (pend : Option Header) (u q : Bytes)
    (hp : Parked v pend u) : drain v gz codec pend q = run v gz codec (u ++ q) := by
  rw [run_eq_drain, drain, drain, unpack_unread v gz codec pend u q hp]

theorem drain_unread_append (v : Ver) (gz : GzOracle) (codec : UInt8) (pend : Option Header) (q x : Bytes)
    (hp : PendOK v pend) : drain v gz codec pend (q ++ x) = run v gz codec (unread v pend q ++ x) := by
  rw [drain_spec v gz codec pend _ _ ((parked_iff v pend).mp hp), unread, List.append_assoc]

/-- how a finished loop goes on when `c` arrives: it resumes from the parked state if it stopped for
want of data, and stays stopped otherwise -/
def resume (v : Ver) (gz : GzOracle) (codec : UInt8) (c : Bytes) : List Packet × End → List Packet × End
  | (ks, (.more, p, r)) => (ks ++ (drain v gz codec p (r ++ c)).1, (drain v gz codec p (r ++ c)).2)
  | (ks, (s, p, r)) => (ks, (s, p, r ++ c))

section
variable (v : Ver) (gz : GzOracle) (codec : UInt8)

theorem resume_cons (c : Bytes) (k : Packet) (o : List Packet × End) :
    resume v gz codec c (k :: o.1, o.2) = (k :: (resume v gz codec c o).1, (resume v gz codec c o).2) := by
  obtain ⟨ks, s, p, r⟩ := o
  cases s <;> rfl

theorem run_append (c u : Bytes) :
    run v gz codec (u ++ c) = resume v gz codec c (run v gz codec u) := by
  fun_induction run v gz codec u with
  | case1 u k p r hu ih =>
    rw [run_pkt v gz codec (unpack_append v gz codec u c hu (by simp)), ih, resume_cons]
  | case2 u hu =>
    rcases h : unpackAbs v gz codec none u with ⟨s, p, r⟩
    cases s with
    | more =>
      obtain ⟨u', hp, rfl⟩ := unpack_more_unread v gz codec u p r h
      simp only [resume, drain_spec v gz codec p u' _ hp, List.append_assoc, List.nil_append]
    | pkt k => exact (hu k p r h).elim
    | err e => rw [run_eq_drain, drain, unpack_append v gz codec u c h (by simp)]; rfl
    | panic w => rw [run_eq_drain, drain, unpack_append v gz codec u c h (by simp)]; rfl

end

/-- resumability: if the loop over `u` stops for want of data, the loop over `u ++ c` delivers the
same packets and then goes on exactly as the parked state does when `c` arrives -/
theorem drain_append (v : Ver) (gz : GzOracle) (codec : UInt8) (c : Bytes) :
    ∀ (u : Bytes) (ks : List Packet) (p : Option Header) (r : Bytes),
      run v gz codec u = (ks, (.more, p, r)) →
      run v gz codec (u ++ c) =
        (ks ++ (drain v gz codec p (r ++ c)).1, (drain v gz codec p (r ++ c)).2) := by
  intro u ks p r h
  rw [run_append, h]; rfl

/-- a connection's read side: parked header, queued bytes, packets delivered so far, and the
result that closed it (an `Unpack` error closes the connection: nothing more is fed) -/
structure Conn where
  pend : Option Header := none
  q : Bytes := []
  pkts : List Packet := []
  stop : Option SRes := none

/-- one chunk arrives: append it to the queue and run the read loop -/
def Conn.step (v : Ver) (gz : GzOracle) (codec : UInt8) (c : Conn) (chunk : Bytes) : Conn :=
  match c.stop with
  | some _ => c
  | none =>
    let o := drain v gz codec c.pend (c.q ++ chunk)
    { pend := o.2.2.1, q := o.2.2.2, pkts := c.pkts ++ o.1,
      stop := if o.2.1 = .more then none else some o.2.1 }

theorem Conn.step_stopped {v : Ver} {gz : GzOracle} {codec : UInt8} {c : Conn} {s : SRes} (h : c.stop = some s) (x : Bytes) :
    c.step v gz codec x = c := by simp only [Conn.step, h]

def feed (v : Ver) (gz : GzOracle) (codec : UInt8) (chunks : List Bytes) : Conn :=
  chunks.foldl (Conn.step v gz codec) {}

/-- what the application sees: the delivered packets and the error verdict -/
def Conn.obs (c : Conn) : List Packet × Option SRes := (c.pkts, c.stop)

/-- the connection after the stream `U`, read off the one-shot loop over `U` -/
def Conn.Inv (v : Ver) (gz : GzOracle) (codec : UInt8) (c : Conn) (U : Bytes) : Prop :=
  PendOK v c.pend ∧ c.pkts = (run v gz codec U).1 ∧
  if (run v gz codec U).2.1 = .more then
    c.stop = none ∧ unread v c.pend c.q = unread v (run v gz codec U).2.2.1 (run v gz codec U).2.2.2
  else c.stop = some (run v gz codec U).2.1

theorem Conn.Inv.step {v : Ver} {gz : GzOracle} {codec : UInt8} {c : Conn} {U : Bytes} (x : Bytes)
    (h : c.Inv v gz codec U) : (c.step v gz codec x).Inv v gz codec (U ++ x) := by
  obtain ⟨hp, hk, hs⟩ := h
  have hp0 := run_pendOK v gz codec U
  have hp1 := run_pendOK v gz codec (U ++ x)
  unfold Conn.Inv
  rw [run_append] at hp1 ⊢
  rcases hr : run v gz codec U with ⟨ks, s, p, r⟩
  rw [hr] at hk hs hp0 hp1
  simp only at hk hs hp0
  split at hs
  · obtain ⟨hst, hu⟩ := hs
    subst ‹s = .more›
    -- both sides resume on the same undelivered stream
    have e : drain v gz codec c.pend (c.q ++ x) = drain v gz codec p (r ++ x) := by
      rw [drain_unread_append v gz codec _ _ x hp, drain_unread_append v gz codec _ _ x hp0, hu]
    simp only [Conn.step, hst, e, resume, hk] at hp1 ⊢
    exact ⟨hp1, trivial, by split <;> simp_all⟩
  · have hr' : resume v gz codec x (ks, s, p, r) = (ks, s, p, r ++ x) := by
      cases s <;> first | rfl | exact absurd rfl ‹_›
    simp only [Conn.step, hs, hr', hk]
    exact ⟨hp, trivial, by simp_all⟩

theorem feed_inv (v : Ver) (gz : GzOracle) (codec : UInt8) (chunks : List Bytes) :
    (feed v gz codec chunks).Inv v gz codec chunks.flatten := by
  have h0 : Conn.Inv v gz codec {} [] := by
    simp only [Conn.Inv, run_nil]
    exact ⟨pendOK_none v, trivial, trivial, rfl⟩
  have : ∀ (c : Conn) (U : Bytes), c.Inv v gz codec U →
      (chunks.foldl (Conn.step v gz codec) c).Inv v gz codec (U ++ chunks.flatten) := by
    induction chunks with
    | nil => intro c U h; simpa using h
    | cons x xs ih => intro c U h; simpa [List.append_assoc] using ih _ _ (h.step x)
  simpa [feed] using this _ _ h0

theorem feed_obs (v : Ver) (gz : GzOracle) (codec : UInt8) (chunks : List Bytes) :
    (feed v gz codec chunks).obs = ((run v gz codec chunks.flatten).1,
      if (run v gz codec chunks.flatten).2.1 = .more then none else some (run v gz codec chunks.flatten).2.1) := by
  obtain ⟨_, h1, h2⟩ := feed_inv v gz codec chunks
  unfold Conn.obs
  split at h2 <;> simp_all

/-- CHUNKING INDEPENDENCE: however the byte stream is cut into chunks, the delivered packets and
the error verdict are those of feeding the whole stream at once -/
theorem chunking_independent (v : Ver) (gz : GzOracle) (codec : UInt8) (chunks : List Bytes) :
    (feed v gz codec chunks).obs = (feed v gz codec [chunks.flatten]).obs := by
  rw [feed_obs, feed_obs, List.flatten_singleton]

end Frame
end OAP
