/-
The one-shot frame codec against the published layout (`Spec.encode`).
`pack` in closed form: the wire body, then the second phase with its two refusals and otherwise the layout of the packet handed
on (`pack_wire`, `packTail_eq`). `unpackBytes` as the header decoder followed by three stages (metadata, trailer, decompression),
each described on its own; on a valid layout frame followed by any bytes they read the frame's fields back (`unpackBytes_trailing`).
Definitions the property statements (C01, C02, C03, C10, C20) are phrased with: `specOf` (the layout's frame of a packet as it
leaves `Pack`), `wireBody` (the body after the threshold rule), `mdLenOf`, `ValidFrame` (a layout frame a receiver must accept)
with `packetOf` (the packet it denotes).
-/
import OAP.Model.Frame
import OAP.Spec.Layout
import OAP.Proofs.Metadata
import OAP.Proofs.Header
namespace OAP.Frame

theorem packLen_eq (v : Ver) (bl : UInt32) : packLen v bl = be24 bl := by cases v <;> rfl

theorem cmdByte_spec (v : Ver) (c : UInt32) : cmdByte v c = UInt8.ofNat (c.toNat % 256) := by
  have : cmdByte v c = (c &&& (255 : UInt32)).toUInt8 := by cases v <;> rfl
  rw [this]
  apply UInt8.toNat_inj.mp
  simp only [UInt32.toNat_toUInt8, UInt32.toNat_and, UInt8.toNat_ofNat']
  have : UInt32.toNat 255 = 2 ^ 8 - 1 := by decide
  rw [this, Nat.and_two_pow_sub_one_eq_mod]

theorem Header.pack_no_panic (v : Ver) (h : Header) : (∃ e, Header.pack v h = .err e) ∨ ∃ b, Header.pack v h = .ok b := by
  unfold Header.pack
  by_cases h1 : isUnknown h.type = true
  · exact .inl ⟨_, if_pos h1⟩
  · rw [if_neg h1]
    by_cases h2 : h.bodyLength.toNat > Gen.v1_MaxBodyLength
    · exact .inl ⟨_, if_pos h2⟩
    · exact .inr ⟨_, if_neg h2⟩

/-- a packed header has the length the encoder's `switch` assumes for its type -/
theorem Header.pack_ok_len {v : Ver} {H : Header} {hd : Bytes} (h : Header.pack v H = .ok hd) :
    (H.type = 1 ∧ hd.length = reqLen v) ∨ (H.type = 2 ∧ hd.length = respLen v) ∨ (H.type = 3 ∧ hd.length = pushLen v) := by
  unfold Header.pack at h
  cases hk : isUnknown H.type <;> rw [hk] at h
  · rw [if_neg (by decide)] at h
    by_cases hl : H.bodyLength.toNat > Gen.v1_MaxBodyLength
    · rw [if_pos hl] at h; cases h
    · rw [if_neg hl] at h; cases h
      -- for a known type and a version the header is a list of known shape
      rcases isUnknown_false _ hk with ht | ht | ht
      · exact .inl ⟨ht, by cases v <;> rw [ht] <;> rfl⟩
      · exact .inr (.inl ⟨ht, by cases v <;> rw [ht] <;> rfl⟩)
      · exact .inr (.inr ⟨ht, by cases v <;> rw [ht] <;> rfl⟩)
  · cases h

def specOf (v : Ver) (p : Packet) : Spec.Frame :=
  { type := match p.type with | .request => 1 | .response => 2 | .push => 3 | .other => 0
    verify := if p.verify then 1 else 0, gzip := if p.gzip then 1 else 0, reserve := 0
    cmd := p.cmd.toNat % 256, rid := p.rid.toNat, timeout := p.timeout.toNat, status := p.status.toNat
    md := match v with | .v1 => [] | .v2 => Metadata.marshalMap p.values 65535
    body := p.body, nonce := p.nonce.toNat, sig := sigWindow p.signature }

/-! `packPre`, `packTail`: the body of the model's `pack` cut in two (`pack_eq`, by `rfl`) -/

def packPre (v : Ver) (gz : GzOracle) (p : Packet) (thr : Int) : Res Packet :=
  if gzipCond v thr p.body.length then
    match gz.compress p.body with
    | .ok c => Res.ok { p with body := c, gzip := true }
    | .err e => .err e
    | .panic w => .panic w
  else .ok { p with gzip := false }     -- a stale flag (relayed packet) is cleared

def packTail (v : Ver) (p1 : Packet) : Res (Bytes × Packet) :=
  let bl := p1.body.length
  if bl > Gen.v1_MaxBodyLength then .err "body length hit limit"
  else
    let h0 := headerFromMetadata v p1
    let md : Bytes := match v with | .v1 => [] | .v2 => Metadata.marshalMap p1.values (Gen.v2_MaxMetadataLength : Nat)
    let h := { h0 with bodyLength := UInt32.ofNat bl, metadataLength := UInt16.ofNat md.length }
    do
    let hd ← Header.pack v h
    let trailer : Bytes := if p1.verify then be64 p1.nonce ++ sigWindow p1.signature else []
    .ok (hd ++ md ++ p1.body ++ trailer, p1)

theorem pack_eq (v : Ver) (gz : GzOracle) (p : Packet) (thr : Int) :
    pack v gz p thr = packPre v gz p thr >>= packTail v := rfl

def wireBody (v : Ver) (gz : GzOracle) (p : Packet) (thr : Int) : Res Bytes :=
  if gzipCond v thr p.body.length then gz.compress p.body else .ok p.body

theorem wireBody_sound (v : Ver) (gz : GzOracle) (p : Packet) (thr : Int) (hs : gz.Sound) :
    ∃ b, wireBody v gz p thr = .ok b := by
  unfold wireBody
  split
  · obtain ⟨c, h1, _⟩ := hs p.body; exact ⟨c, h1⟩
  · exact ⟨_, rfl⟩

theorem packPre_eq (v : Ver) (gz : GzOracle) (p : Packet) (thr : Int) :
    packPre v gz p thr =
      wireBody v gz p thr >>= fun b => .ok { p with body := b, gzip := gzipCond v thr p.body.length } := by
  unfold packPre wireBody
  cases hc : gzipCond v thr p.body.length
  · rfl
  · simp only [↓reduceIte]; cases gz.compress p.body <;> rfl

theorem pack_wire (v : Ver) (gz : GzOracle) (p : Packet) (thr : Int) :
    pack v gz p thr =
      wireBody v gz p thr >>= fun b => packTail v { p with body := b, gzip := gzipCond v thr p.body.length } := by
  rw [pack_eq, packPre_eq]; cases wireBody v gz p thr <;> rfl

theorem pack_of_wireBody (v : Ver) (gz : GzOracle) (p : Packet) (thr : Int) (b : Bytes)
    (hb : wireBody v gz p thr = .ok b) :
    pack v gz p thr = packTail v { p with body := b, gzip := gzipCond v thr p.body.length } := by
  rw [pack_wire, hb]; rfl

theorem pack_flag_irrelevant (v : Ver) (gz : GzOracle) (p : Packet) (thr : Int) (g : Bool) :
    pack v gz { p with gzip := g } thr = pack v gz p thr := rfl

theorem md_length_le (vals : List Metadata.Pair) : (Metadata.marshalMap vals 65535).length ≤ 65535 := by
  have := Metadata.marshalValues_budget (Metadata.sortPairs vals) 65535 (by decide)
  rw [Metadata.marshalMap]; omega

theorem sigWindow_length (s : Bytes) : (sigWindow s).length = 16 := by
  simp only [sigWindow, sigLen_eq, List.length_append, List.length_take, List.length_replicate]; omega

theorem sigWindow_id (s : Bytes) (h : s.length = 16) : sigWindow s = s := by
  simp [sigWindow, sigLen_eq, h, List.take_of_length_le]

/-- byte 0 as `Header.Pack` composes it, in the arithmetic form `Spec.encode` has for it (`+ 64 * 0`: reserve 0) -/
theorem packB0_tab (v : Ver) : ∀ vf g : Bool,
    packB0 v tReq (if vf then 1 else 0) (if g then 1 else 0) 0 = UInt8.ofNat (1 + 16 * (if vf then 1 else 0) + 32 * (if g then 1 else 0) + 64 * 0) ∧
    packB0 v tResp (if vf then 1 else 0) (if g then 1 else 0) 0 = UInt8.ofNat (2 + 16 * (if vf then 1 else 0) + 32 * (if g then 1 else 0) + 64 * 0) ∧
    packB0 v tPush (if vf then 1 else 0) (if g then 1 else 0) 0 = UInt8.ofNat (3 + 16 * (if vf then 1 else 0) + 32 * (if g then 1 else 0) + 64 * 0) := by
  cases v <;> decide

theorem packTail_eq (v : Ver) (p1 : Packet) :
    packTail v p1 =
      if 16777215 < p1.body.length then .err "body length hit limit"
      else if p1.type = .other then .err "invalid packet type"
      else .ok (Spec.encode v (specOf v p1), p1) := by
  unfold packTail
  simp only [maxBody_eq, maxMd_eq, gt_iff_lt]
  split
  · rfl
  · rename_i hlen
    have hbl : (UInt32.ofNat p1.body.length).toNat = p1.body.length := by
      rw [UInt32.toNat_ofNat']; apply Nat.mod_eq_of_lt; omega
    have k0 : isUnknown 0 = true := by decide
    obtain ⟨b1, b2, b3⟩ := packB0_tab v p1.verify p1.gzip
    have hs : ∀ s : UInt8, Spec.be s.toNat 1 = [s] := fun s => by simp [Spec.be]
    -- both sides field by field: the shift encoders are `Spec.be` (OAP/Proofs/BigEndian.lean)
    cases ht : p1.type <;> cases v <;>
      simp [Header.pack, headerFromMetadata, ht, tconsts, k0, hbl, maxBody_eq, hlen,
        Spec.encode, specOf, b1, b2, b3, cmdByte_spec, ← be32_spec, be16_ofNat, ← be16_spec, packLen_eq, be24_ofNat,
        ← be64_spec, hs] <;>
      cases p1.verify <;> simp

theorem packTail_ok {v : Ver} {p1 p' : Packet} {bs : Bytes} (h : packTail v p1 = .ok (bs, p')) :
    p' = p1 ∧ p1.type ≠ .other ∧ p1.body.length ≤ 16777215 ∧ bs = Spec.encode v (specOf v p1) := by
  rw [packTail_eq] at h
  split at h
  · cases h
  · split at h
    · cases h
    · cases h; exact ⟨rfl, by assumption, by omega, rfl⟩

theorem packTail_isOk (v : Ver) (p1 : Packet) :
    (packTail v p1).isOk = true ↔ (p1.type ≠ .other ∧ p1.body.length ≤ 16777215) := by
  rw [packTail_eq]
  split
  · simp [Res.isOk]; omega
  · split <;> simp [Res.isOk, *]; omega

theorem packTail_noPanic (v : Ver) (p1 : Packet) : (packTail v p1).isPanic = false := by
  rw [packTail_eq]; split
  · rfl
  · split <;> rfl

/-- what the threshold rule leaves as the wire body: the compressor's output when it engaged, the packet's own otherwise -/
theorem wireBody_ok {v : Ver} {gz : GzOracle} {p : Packet} {thr : Int} {b : Bytes} (h : wireBody v gz p thr = .ok b) :
    (gzipCond v thr p.body.length = true → gz.compress p.body = .ok b) ∧
    (gzipCond v thr p.body.length = false → b = p.body) := by
  unfold wireBody at h
  cases hc : gzipCond v thr p.body.length <;> rw [hc] at h
  · cases h; exact ⟨nofun, fun _ => rfl⟩
  · exact ⟨fun _ => h, nofun⟩

/-- the flag of the packet handed on is the engagement of the threshold rule, the body is the
compressor's output when it engaged and the packet's own otherwise — whatever the incoming flag -/
theorem packPre_flag (v : Ver) (gz : GzOracle) (p p1 : Packet) (thr : Int) (h : packPre v gz p thr = .ok p1) :
    p1.gzip = gzipCond v thr p.body.length ∧ (p1.gzip = true → gz.compress p.body = .ok p1.body) ∧
    (p1.gzip = false → p1.body = p.body) := by
  rw [packPre_eq] at h
  obtain ⟨b, hb, h⟩ := Res.bind_eq_ok h
  cases h
  exact ⟨rfl, (wireBody_ok hb).1, (wireBody_ok hb).2⟩

theorem pack_ok_wire {v : Ver} {gz : GzOracle} {p p' : Packet} {thr : Int} {bs : Bytes}
    (h : pack v gz p thr = .ok (bs, p')) :
    ∃ b, wireBody v gz p thr = .ok b ∧ p' = { p with body := b, gzip := gzipCond v thr p.body.length } ∧
      p.type ≠ .other ∧ b.length ≤ 16777215 ∧ bs = Spec.encode v (specOf v p') := by
  rw [pack_wire] at h
  obtain ⟨b, hb, h⟩ := Res.bind_eq_ok h
  obtain ⟨rfl, h2, h3, h4⟩ := packTail_ok h
  exact ⟨b, hb, rfl, h2, h3, h4⟩

theorem pack_threshold_zero (v : Ver) (gz : GzOracle) (p : Packet) (ht : p.type ≠ .other) (hz : p.gzip = false)
    (hl : p.body.length < 16777216) : (pack v gz p 0).map (·.1) = .ok (Spec.encode v (specOf v p)) := by
  have hc : gzipCond v 0 p.body.length = false := by cases v <;> rfl
  have hp : ({ p with body := p.body, gzip := gzipCond v 0 p.body.length } : Packet) = p := by rw [hc, ← hz]
  rw [pack_of_wireBody v gz p 0 p.body (by simp [wireBody, hc]), hp, packTail_eq, if_neg (by omega), if_neg ht]
  rfl

/-- `md`, `nonce`, `sig` do not reach the wire here, but `specOf` fills them (the marshalled empty map, the 16-byte signature
window): they are reset, so that the frame can be compared with one written down by hand -/
theorem pack_plain (v : Ver) (gz : GzOracle) (p : Packet) (ht : p.type ≠ .other) (hz : p.gzip = false)
    (hv : p.verify = false) (hm : p.values = []) (hl : p.body.length < 16777216) :
    (pack v gz p 0).map (·.1) = .ok (Spec.encode v { specOf v p with md := [], nonce := 0, sig := [] }) := by
  have e : Metadata.marshalMap [] 65535 = [] := by simp [Metadata.marshalMap, Metadata.marshalValues, Metadata.sortPairs]
  rw [pack_threshold_zero v gz p ht hz hl]
  cases v <;> simp only [Spec.encode, specOf, hv, hm, e, Bool.false_eq_true, ↓reduceIte, Nat.zero_ne_one]

theorem ub_tab : ∀ b : UInt8,
    Gen.v1UbType b = UInt8.ofNat (b.toNat % 16) ∧ Gen.v1UbVerify b = UInt8.ofNat (b.toNat / 16 % 2) ∧
    Gen.v1UbGzip b = UInt8.ofNat (b.toNat / 32 % 2) ∧ Gen.v1UbReserve b = UInt8.ofNat (b.toNat / 64) :=
  forall_byte (by decide +kernel)

theorem ub_eq (v : Ver) : ubType v = Gen.v1UbType ∧ ubVerify v = Gen.v1UbVerify ∧ ubGzip v = Gen.v1UbGzip ∧
    ubReserve v = Gen.v1UbReserve ∧ ubBodyLen v = rd24 := by
  cases v <;> exact ⟨rfl, rfl, rfl, rfl, rfl⟩

/-- byte 0 as the layout reads it: type = low nibble, verify = bit 4, gzip = bit 5, reserve = bits 6–7 -/
theorem ub_spec (v : Ver) (b : UInt8) :
    ubType v b = UInt8.ofNat (b.toNat % 16) ∧ ubVerify v b = UInt8.ofNat (b.toNat / 16 % 2) ∧
    ubGzip v b = UInt8.ofNat (b.toNat / 32 % 2) ∧ ubReserve v b = UInt8.ofNat (b.toNat / 64) := by
  obtain ⟨e1, e2, e3, e4, _⟩ := ub_eq v
  rw [e1, e2, e3, e4]
  exact ub_tab b

theorem b0_fields (v : Ver) (t vf g r : Nat) (ht : t < 16) (hvf : vf ≤ 1) (hg : g ≤ 1) (hr : r ≤ 3) :
    ubType v (UInt8.ofNat (t + 16 * vf + 32 * g + 64 * r)) = UInt8.ofNat t ∧
    ubVerify v (UInt8.ofNat (t + 16 * vf + 32 * g + 64 * r)) = UInt8.ofNat vf ∧
    ubGzip v (UInt8.ofNat (t + 16 * vf + 32 * g + 64 * r)) = UInt8.ofNat g ∧
    ubReserve v (UInt8.ofNat (t + 16 * vf + 32 * g + 64 * r)) = UInt8.ofNat r := by
  generalize hn : t + 16 * vf + 32 * g + 64 * r = n
  have e : (UInt8.ofNat n).toNat = n := by rw [UInt8.toNat_ofNat']; omega
  -- as one goal: four separate calls of `omega` cost half as much again
  have : n % 16 = t ∧ n / 16 % 2 = vf ∧ n / 32 % 2 = g ∧ n / 64 = r := by omega
  obtain ⟨e1, e2, e3, e4⟩ := ub_spec v (UInt8.ofNat n)
  rw [e1, e2, e3, e4, e, this.1, this.2.1, this.2.2.1, this.2.2.2]
  exact ⟨rfl, rfl, rfl, rfl⟩

/-! `unpackBytes` as a pipeline of stages: the body of the model's function cut up (`unpackBytes_eq`, by `rfl`) -/

def withValues (v : Ver) (p : Packet) (md : Bytes) : Res Packet :=
  match v with
  | .v1 => .ok p
  | .v2 => match Metadata.rawPairs md with
    | .ok ps => .ok { p with values := ps }
    | .err e => .err e
    | .panic w => .panic w

def verifyStage (h : Header) (data : Bytes) (idx : Nat) (p : Packet) : Res Packet :=
  if h.verify == 1 then
    if data.length < idx + trailerLen then Res.err "invalid frame" else do
    let n ← Bytes.slice data idx (idx + Gen.v1_NonceLength)
    let s ← Bytes.sliceFrom data (idx + Gen.v1_NonceLength)
    match n with
    | [a, b, c, d, e, f, g, i] => Res.ok { p with nonce := rd64 a b c d e f g i, signature := s }
    | _ => .panic "slice length"
  else .ok p

def gzStage (gz : GzOracle) (h : Header) (p : Packet) : Res Packet :=
  if h.gzip == 1 then
    match Gzip.decompress gz p.body with
    | .ok b => .ok { p with body := b }
    | .err e => .err e
    | .panic w => .panic w
  else .ok p

def mdLenOf (v : Ver) (h : Header) : Nat := match v with | .v1 => 0 | .v2 => h.metadataLength.toNat

def oneShotBody (v : Ver) (gz : GzOracle) (codec : UInt8) (h : Header) (data : Bytes) : Res Packet :=
  let ml := mdLenOf v h
  let bl := h.bodyLength.toNat
  if data.length < bl + ml then .err "invalid frame" else do
  let md ← Bytes.slice data 0 ml
  let body ← Bytes.slice data ml (bl + ml)
  let p ← withValues v { Header.toPacket h codec with body := body } md
  let p ← verifyStage h data (bl + ml) p
  gzStage gz h p

theorem unpackBytes_eq (v : Ver) (gz : GzOracle) (codec : UInt8) (bs : Bytes) :
    unpackBytes v gz codec bs = Header.unpackBytes v bs >>= fun (h, data) => oneShotBody v gz codec h data := rfl

theorem withValues_noPanic (v : Ver) (p : Packet) (md : Bytes) : (withValues v p md).isPanic = false := by
  cases v with
  | v1 => rfl
  | v2 =>
    have := Metadata.rawPairs_noPanic md
    unfold withValues
    cases h : Metadata.rawPairs md with
    | ok ps => rfl
    | err e => rfl
    | panic w => rw [h] at this; cases this

theorem decompress_cases (gz : GzOracle) (b : Bytes) :
    (∃ c, gz.read b = some (c, true) ∧ Gzip.decompress gz b = .ok c) ∨
    ((∀ c, gz.read b ≠ some (c, true)) ∧ Gzip.decompress gz b = .err "gzip") := by
  unfold Gzip.decompress
  split
  · rename_i c hc; exact .inl ⟨c, hc, rfl⟩
  · rename_i hn; exact .inr ⟨hn, rfl⟩

theorem gzStage_noPanic (gz : GzOracle) (h : Header) (p : Packet) : (gzStage gz h p).isPanic = false := by
  unfold gzStage
  split
  · rcases decompress_cases gz p.body with ⟨c, _, hc⟩ | ⟨_, hc⟩ <;> rw [hc] <;> rfl
  · rfl

/-- the signature is ALL that follows the nonce (`data[idx+8:]`), not the next 16 bytes -/
theorem verifyStage_eq (h : Header) (data : Bytes) (idx : Nat) (p : Packet) :
    verifyStage h data idx p =
      if h.verify == 1 then
        if data.length < idx + 24 then .err "invalid frame"
        else .ok { p with nonce := Q.u64 (data.drop idx), signature := data.drop (idx + 8) }
      else .ok p := by
  unfold verifyStage
  rw [nonceLen_eq, trailerLen_eq]
  split
  · split
    · rfl
    · rw [Bytes.slice_ok _ _ _ (by omega) (by omega), Bytes.sliceFrom_ok _ _ (by omega), List.drop_take, Nat.add_sub_cancel_left]
      have h8 : 8 ≤ (data.drop idx).length := by rw [List.length_drop]; omega
      generalize data.drop idx = q at h8
      repeat decons h8
      rfl
  · rfl

theorem verifyStage_ok (h : Header) (pre nb s : Bytes) (p : Packet)
    (hv : (h.verify == 1) = true) (hn : nb.length = 8) (hs : 16 ≤ s.length) :
    verifyStage h (pre ++ nb ++ s) pre.length p = .ok { p with nonce := Q.u64 nb, signature := s } := by
  rw [verifyStage_eq, if_pos hv, if_neg (by simp only [List.length_append]; omega), List.append_assoc, List.drop_left,
    ← List.append_assoc, ← hn, ← List.length_append, List.drop_left]
  match nb, hn with
  | [a, b, c, d, e, f, g, i], _ => rfl

theorem verifyStage_off (h : Header) (data : Bytes) (idx : Nat) (p : Packet)
    (hv : (h.verify == 1) = false) : verifyStage h data idx p = .ok p := by
  rw [verifyStage_eq, hv]; rfl

theorem verifyStage_noPanic (h : Header) (data : Bytes) (idx : Nat) (p : Packet) :
    (verifyStage h data idx p).isPanic = false := by
  rw [verifyStage_eq]
  split
  · split <;> rfl
  · rfl

theorem oneShotBody_guard (v : Ver) (gz : GzOracle) (codec : UInt8) (h : Header) (data : Bytes)
    (hg : data.length < h.bodyLength.toNat + mdLenOf v h) : oneShotBody v gz codec h data = .err "invalid frame" := by
  unfold oneShotBody; simp only [hg, ↓reduceIte]

/-- past the length guard both slices are in range -/
theorem oneShotBody_long (v : Ver) (gz : GzOracle) (codec : UInt8) (h : Header) (data : Bytes)
    (hg : ¬ data.length < h.bodyLength.toNat + mdLenOf v h) :
    oneShotBody v gz codec h data =
      (withValues v { Header.toPacket h codec with body := (data.take (h.bodyLength.toNat + mdLenOf v h)).drop (mdLenOf v h) }
          (data.take (mdLenOf v h)) >>= fun p =>
        verifyStage h data (h.bodyLength.toNat + mdLenOf v h) p >>= fun p => gzStage gz h p) := by
  unfold oneShotBody
  simp only [hg, ↓reduceIte]
  rw [Bytes.slice_ok _ _ _ (by omega) (by omega), Bytes.slice_ok _ _ _ (by omega) (by omega)]
  simp only [Res.ok_bind, List.drop_zero]

theorem oneShotBody_noPanic (v : Ver) (gz : GzOracle) (codec : UInt8) (h : Header) (data : Bytes) :
    (oneShotBody v gz codec h data).isPanic = false := by
  by_cases hg : data.length < h.bodyLength.toNat + mdLenOf v h
  · rw [oneShotBody_guard v gz codec h data hg]; rfl
  · rw [oneShotBody_long v gz codec h data hg]
    exact Res.bind_noPanic (withValues_noPanic ..) fun _ _ =>
      Res.bind_noPanic (verifyStage_noPanic ..) fun _ _ => gzStage_noPanic ..

/-- a frame is accepted only if everything its header announces is there: metadata block, body and,
when the verify bit is set, the 24-byte trailer -/
theorem oneShotBody_short (v : Ver) (gz : GzOracle) (codec : UInt8) (h : Header) (data : Bytes)
    (hs : data.length < h.bodyLength.toNat + mdLenOf v h + (if (h.verify == 1) = true then 24 else 0)) :
    ∃ e, oneShotBody v gz codec h data = .err e := by
  by_cases hg : data.length < h.bodyLength.toNat + mdLenOf v h
  · exact ⟨_, oneShotBody_guard v gz codec h data hg⟩
  · rw [oneShotBody_long v gz codec h data hg]
    generalize hr : withValues v _ _ = r
    have hm := hr ▸ withValues_noPanic ..
    cases r with
    | panic w => cases hm
    | err e => exact ⟨e, rfl⟩
    | ok p =>
      rw [Res.ok_bind, verifyStage_eq]
      split at hs
      · rw [if_pos ‹_›, if_pos hs]; exact ⟨_, rfl⟩
      · omega

theorem Header.unpackBytes_noPanic (v : Ver) (bs : Bytes) : (Header.unpackBytes v bs).isPanic = false := by
  cases bs with
  | nil => rw [Header.unpackBytes_nil]; rfl
  | cons b t =>
    rw [Header.unpackBytes_cons]
    split
    · rfl
    · split <;> rfl

theorem unpackBytes_noPanic (v : Ver) (gz : GzOracle) (codec : UInt8) (bs : Bytes) :
    (unpackBytes v gz codec bs).isPanic = false := by
  rw [unpackBytes_eq]
  exact Res.bind_noPanic (Header.unpackBytes_noPanic v bs) fun a _ => oneShotBody_noPanic _ _ _ _ _

theorem unpackBytes_nil (v : Ver) (gz : GzOracle) (codec : UInt8) : unpackBytes v gz codec [] = .err "invalid frame" := by
  rw [unpackBytes_eq, Header.unpackBytes_nil]; rfl

theorem unpackBytes_unknown {v : Ver} (gz : GzOracle) (codec : UInt8) {b : UInt8} (t : Bytes)
    (hk : isUnknown (ubType v b) = true) : unpackBytes v gz codec (b :: t) = .err "invalid packet type" := by
  rw [unpackBytes_eq, Header.unpackBytes_cons, hk]; rfl

/-- a frame of the published layout that a receiver must accept: known type, every field within its
width, and the variable parts consistent (`ps` = the pairs of the v2 metadata block, `content` = the
body after optional decompression) -/
structure ValidFrame (v : Ver) (gz : GzOracle) (f : Spec.Frame) (content : Bytes) (ps : List Metadata.Pair) : Prop where
  type : f.type = 1 ∨ f.type = 2 ∨ f.type = 3
  verify : f.verify ≤ 1
  gzip : f.gzip ≤ 1
  reserve : f.reserve ≤ 3
  cmd : f.cmd < 256
  rid : f.rid < 4294967296
  timeout : f.timeout < 65536
  status : f.status < 256
  nonce : f.nonce < 18446744073709551616
  sig : f.verify = 1 → f.sig.length = 16
  body : f.body.length < 16777216
  md1 : v = .v1 → f.md = [] ∧ ps = []
  mdlen : f.md.length < 65536
  md2 : v = .v2 → Metadata.rawPairs f.md = .ok ps
  gz1 : f.gzip = 1 → gz.read f.body = some (content, true)
  gz0 : f.gzip = 0 → content = f.body

def packetOf (f : Spec.Frame) (codec : UInt8) (content : Bytes) (ps : List Metadata.Pair) : Packet :=
  { type := if f.type = 1 then .request else if f.type = 2 then .response else .push
    cmd := UInt32.ofNat f.cmd, rid := if f.type = 3 then 0 else UInt32.ofNat f.rid
    timeout := if f.type = 1 then UInt16.ofNat f.timeout else 0
    status := if f.type = 2 then UInt8.ofNat f.status else 0
    verify := decide (f.verify = 1), gzip := decide (f.gzip = 1)
    nonce := if f.verify = 1 then UInt64.ofNat f.nonce else 0
    signature := if f.verify = 1 then f.sig else []
    values := ps, codec := codec, body := content }

def hdrBytes (v : Ver) (f : Spec.Frame) : Bytes :=
  [UInt8.ofNat (f.type + 16 * f.verify + 32 * f.gzip + 64 * f.reserve), UInt8.ofNat f.cmd]
  ++ (if f.type = 1 then Spec.be f.rid 4 ++ Spec.be f.timeout 2 else if f.type = 2 then Spec.be f.rid 4 ++ Spec.be f.status 1 else [])
  ++ mlBytes v f.md.length
  ++ Spec.be f.body.length 3

def mdOf (v : Ver) (f : Spec.Frame) : Bytes := match v with | .v1 => [] | .v2 => f.md
def trailerOf (f : Spec.Frame) : Bytes := if f.verify = 1 then Spec.be f.nonce 8 ++ f.sig else []

theorem encode_split (v : Ver) (f : Spec.Frame) :
    Spec.encode v f = hdrBytes v f ++ (mdOf v f ++ f.body ++ trailerOf f) := by
  cases v <;> simp [Spec.encode, hdrBytes, mlBytes, mdOf, trailerOf]

/-- the header the layout's field values denote; which fields the type has is tested as the decoder tests it -/
def hdrOf (v : Ver) (f : Spec.Frame) : Header :=
  let t := UInt8.ofNat f.type
  { type := t, verify := UInt8.ofNat f.verify, gzip := UInt8.ofNat f.gzip, reserve := UInt8.ofNat f.reserve
    cmdCode := UInt8.ofNat f.cmd
    requestId := if t == tReq || t == tResp then UInt32.ofNat f.rid else 0
    timeout := if t == tReq then UInt16.ofNat f.timeout else 0
    statusCode := if t == tResp then UInt8.ofNat f.status else 0
    metadataLength := match v with | .v1 => 0 | .v2 => UInt16.ofNat f.md.length
    bodyLength := UInt32.ofNat f.body.length }

section
variable {v : Ver} {gz : GzOracle} {f : Spec.Frame} {content : Bytes} {ps : List Metadata.Pair}

theorem hdrBytes_length (hv : ValidFrame v gz f content ps) :
    (hdrBytes v f).length = hdrLen v (UInt8.ofNat f.type) ∧ isUnknown (UInt8.ofNat f.type) = false := by
  rw [hdrLen_eq]
  rcases hv.type with ht | ht | ht <;> rw [ht] <;> refine ⟨?_, by decide⟩ <;> cases v <;> simp [hdrBytes, mlBytes, ht] <;> decide

theorem hdrBytes_cons (v : Ver) (f : Spec.Frame) :
    ∃ t, hdrBytes v f = UInt8.ofNat (f.type + 16 * f.verify + 32 * f.gzip + 64 * f.reserve) :: t :=
  ⟨_, by simp only [hdrBytes, List.cons_append, List.append_assoc]; rfl⟩

/-- the form the decoders' lemmas ask for -/
theorem hdrBytes_shape (hv : ValidFrame v gz f content ps) :
    ∃ b w, hdrBytes v f = b :: w ∧ isUnknown (usType v b) = false ∧ w.length = hdrLen v (usType v b) - 1 := by
  obtain ⟨hlen, hkn⟩ := hdrBytes_length hv
  obtain ⟨e1, _⟩ := b0_fields v f.type f.verify f.gzip f.reserve
    (by rcases hv.type with h | h | h <;> omega) hv.verify hv.gzip hv.reserve
  obtain ⟨w, hw⟩ := hdrBytes_cons v f
  rw [hw, List.length_cons] at hlen
  rw [ub_us_type] at e1
  exact ⟨_, w, hw, by rw [e1]; exact hkn, by rw [e1]; omega⟩

/-- the layout's header bytes, regrouped field by field as `restAbs` reads them -/
theorem hdrBytes_fields (v : Ver) (f : Spec.Frame) (ht : f.type = 1 ∨ f.type = 2 ∨ f.type = 3) {h : Header}
    (hh : h.type = UInt8.ofNat f.type) (rest : Bytes) :
    hdrBytes v f ++ rest = UInt8.ofNat (f.type + 16 * f.verify + 32 * f.gzip + 64 * f.reserve) :: UInt8.ofNat f.cmd ::
      ((if h.type == tReq || h.type == tResp then Spec.be f.rid 4 else []) ++ ((if h.type == tReq then Spec.be f.timeout 2 else []) ++
       ((if h.type == tResp then Spec.be f.status 1 else []) ++
        (mlBytes v f.md.length ++ (Spec.be f.body.length 3 ++ rest))))) := by
  rw [hh]
  rcases ht with h1 | h1 | h1 <;> rw [h1] <;> simp [hdrBytes, h1, type_vals]

theorem Header.unpackBytes_spec (hv : ValidFrame v gz f content ps) (rest : Bytes) :
    Header.unpackBytes v (hdrBytes v f ++ rest) = .ok (hdrOf v f, rest) := by
  obtain ⟨e1, e2, e3, e4⟩ := b0_fields v f.type f.verify f.gzip f.reserve
    (by rcases hv.type with h | h | h <;> omega) hv.verify hv.gzip hv.reserve
  obtain ⟨hlen, hkn⟩ := hdrBytes_length hv
  have hp0 : (parse0 v {} (UInt8.ofNat (f.type + 16 * f.verify + 32 * f.gzip + 64 * f.reserve))).type = UInt8.ofNat f.type := by
    rw [← e1, ub_us_type]; rfl
  have hb := hdrBytes_fields v f hv.type hp0 []
  rw [List.append_nil] at hb
  have hl := congrArg List.length hb
  rw [hlen, List.length_cons] at hl
  rw [hb, List.cons_append, unpackBytes_hdr_append _ _ _ _ (by rw [← ub_us_type, e1]; exact hkn) (by rw [← ub_us_type, e1]; omega),
    restAbs_be hv.body, hp0]
  simp only [parse0, coreHdr, ← ub_us_type, ← ub_us_verify, ← ub_us_gzip, ← ub_us_reserve, e1, e2, e3, e4]
  cases v <;> rfl

theorem u8_ofNat_beq_one {n : Nat} (h : n ≤ 1) : (UInt8.ofNat n == 1) = decide (n = 1) := by
  have : n = 0 ∨ n = 1 := by omega
  rcases this with rfl | rfl <;> decide

theorem hdrOf_facts (hv : ValidFrame v gz f content ps) :
    (hdrOf v f).bodyLength.toNat = f.body.length ∧ mdLenOf v (hdrOf v f) = (mdOf v f).length ∧
    ((hdrOf v f).verify == 1) = decide (f.verify = 1) ∧ ((hdrOf v f).gzip == 1) = decide (f.gzip = 1) := by
  have hb := hv.body
  have hm := hv.mdlen
  refine ⟨?_, ?_, u8_ofNat_beq_one hv.verify, u8_ofNat_beq_one hv.gzip⟩
  · simp only [hdrOf, UInt32.toNat_ofNat']; omega
  · cases v
    · rfl
    · simp only [hdrOf, mdLenOf, mdOf, UInt16.toNat_ofNat']; omega

theorem trailerOf_length (hv : ValidFrame v gz f content ps) : (trailerOf f).length = if f.verify = 1 then 24 else 0 := by
  unfold trailerOf
  split
  · rename_i h; simp [hv.sig h]
  · rfl

/-- the packet as the header alone determines it -/
theorem toPacket_hdrOf (hv : ValidFrame v gz f content ps) (codec : UInt8) :
    Header.toPacket (hdrOf v f) codec =
      { packetOf f codec [] [] with nonce := 0, signature := [] } := by
  have hc : (UInt8.ofNat f.cmd).toUInt32 = UInt32.ofNat f.cmd := by
    apply UInt32.toNat_inj.mp
    have := hv.cmd
    simp only [UInt8.toNat_toUInt32, UInt8.toNat_ofNat', UInt32.toNat_ofNat']; omega
  have h1 := u8_ofNat_beq_one hv.verify
  have h2 := u8_ofNat_beq_one hv.gzip
  unfold Header.toPacket packetOf
  rcases hv.type with ht | ht | ht <;> simp [hdrOf, ht, hc, h1, h2, type_vals]

theorem withValues_spec (hv : ValidFrame v gz f content ps) (p : Packet) (hp : p.values = []) :
    withValues v p (mdOf v f) = .ok { p with values := ps } := by
  cases v with
  | v1 =>
    obtain ⟨_, rfl⟩ := hv.md1 rfl
    simp only [withValues]
    rw [← hp]
  | v2 =>
    simp only [withValues, mdOf, hv.md2 rfl]

theorem verifyStage_trailing (hv : ValidFrame v gz f content ps) (pre rest : Bytes) (p : Packet) :
    verifyStage (hdrOf v f) (pre ++ trailerOf f ++ rest) pre.length p =
      .ok { p with nonce := if f.verify = 1 then UInt64.ofNat f.nonce else p.nonce
                   signature := if f.verify = 1 then f.sig ++ rest else p.signature } := by
  obtain ⟨_, _, hver, _⟩ := hdrOf_facts hv
  by_cases h1 : f.verify = 1
  · have hs := hv.sig h1
    have e : pre ++ trailerOf f ++ rest = pre ++ Spec.be f.nonce 8 ++ (f.sig ++ rest) := by
      simp only [trailerOf, h1, ↓reduceIte, List.append_assoc]
    have hu := Q.u64_be f.nonce []
    rw [List.append_nil] at hu
    rw [e, verifyStage_ok _ _ _ _ _ (by rw [hver]; simp [h1]) (Spec.be_length _ _) (by rw [List.length_append]; omega), hu]
    simp only [h1, ↓reduceIte]
  · rw [verifyStage_off _ _ _ _ (by rw [hver]; simp [h1])]
    simp only [h1, ↓reduceIte]

theorem gzStage_spec (hv : ValidFrame v gz f content ps) (p : Packet) (hp : p.body = f.body) :
    gzStage gz (hdrOf v f) p = .ok { p with body := content } := by
  obtain ⟨_, _, _, hgz⟩ := hdrOf_facts hv
  unfold gzStage
  by_cases h1 : f.gzip = 1
  · have := hv.gz1 h1
    simp only [hgz, h1, decide_true, ↓reduceIte, Gzip.decompress, hp, this]
  · have h0 : f.gzip = 0 := by have := hv.gzip; omega
    have := hv.gz0 h0
    simp only [hgz, h1, decide_false, Bool.false_eq_true, ↓reduceIte]
    rw [this, ← hp]

/-- DECODER DIRECTION on a frame followed by ANY bytes `rest` (a second frame, a partial frame, garbage): `UnpackBytes` returns the
frame's packet; `rest` is not looked at — except when the verify bit is set: then the signature is `data[idx+8:]`, the 16
signature bytes AND `rest` -/
theorem unpackBytes_trailing (hv : ValidFrame v gz f content ps) (codec : UInt8) (rest : Bytes) :
    unpackBytes v gz codec (Spec.encode v f ++ rest) =
      .ok { packetOf f codec content ps with signature := if f.verify = 1 then f.sig ++ rest else [] } := by
  obtain ⟨hbl, hml, -⟩ := hdrOf_facts hv
  rw [unpackBytes_eq, encode_split, List.append_assoc, Header.unpackBytes_spec hv]
  simp only [Res.ok_bind]
  rw [oneShotBody_long _ _ _ _ _ (by rw [hbl, hml]; simp only [List.length_append]; omega)]
  rw [hbl, hml]
  have t1 : (mdOf v f ++ f.body ++ trailerOf f ++ rest).take (mdOf v f).length = mdOf v f := by
    simp [List.append_assoc]
  have hlen : f.body.length + (mdOf v f).length = (mdOf v f ++ f.body).length := by simp; omega
  have t2 : ((mdOf v f ++ f.body ++ trailerOf f ++ rest).take (f.body.length + (mdOf v f).length)).drop (mdOf v f).length
      = f.body := by
    rw [hlen, List.append_assoc (mdOf v f ++ f.body), List.take_left, List.drop_left]
  rw [t1, t2, toPacket_hdrOf hv, withValues_spec hv _ rfl]
  simp only [Res.ok_bind]
  rw [hlen, verifyStage_trailing hv]
  simp only [Res.ok_bind]
  rw [gzStage_spec hv _ rfl]
  rfl

theorem unpackBytes_spec (hv : ValidFrame v gz f content ps) (codec : UInt8) :
    unpackBytes v gz codec (Spec.encode v f) = .ok (packetOf f codec content ps) := by
  have := unpackBytes_trailing hv codec []
  rw [List.append_nil, List.append_nil] at this
  exact this

theorem unpackBytes_prefix (hv : ValidFrame v gz f content ps) (codec : UInt8) (k : Nat) (hk : k < (Spec.encode v f).length) :
    ∃ e, unpackBytes v gz codec ((Spec.encode v f).take k) = .err e := by
  obtain ⟨hbl, hml, hver, hgz⟩ := hdrOf_facts hv
  obtain ⟨b, t, ht, hkn, hlen⟩ := hdrBytes_shape hv
  have htl := trailerOf_length hv
  rw [encode_split] at hk ⊢
  simp only [List.length_append, htl] at hk
  rw [unpackBytes_eq]
  by_cases hlt : k < (hdrBytes v f).length
  · cases k with
    | zero => rw [List.take_zero, Header.unpackBytes_nil]; exact ⟨_, rfl⟩
    | succ k' =>
      rw [ht, List.cons_append, List.take_succ_cons, Header.unpackBytes_cons, ub_us_type, hkn, if_neg (by decide),
        if_pos (by rw [ht, List.length_cons] at hlt; rw [List.length_take]; omega)]
      exact ⟨_, rfl⟩
  · rw [List.take_append, List.take_of_length_le (by omega), Header.unpackBytes_spec hv]
    apply oneShotBody_short
    rw [hbl, hml, hver, List.length_take]
    simp only [List.length_append, htl, decide_eq_true_eq]
    omega

end

/-- byte 0 of the frame `pack` emits: type nibble (1, 2 or 3), verify in bit 4, gzip in bit 5 — the
flags of the packet as handed on by the first phase —, reserve bits clear -/
theorem pack_byte0 (v : Ver) (gz : GzOracle) (p p' : Packet) (thr : Int) (bs : Bytes)
    (h : pack v gz p thr = .ok (bs, p')) :
    ∃ t rest, (t = 1 ∨ t = 2 ∨ t = 3) ∧
      bs = UInt8.ofNat (t + 16 * (if p'.verify then 1 else 0) + 32 * (if p'.gzip then 1 else 0) + 64 * 0) :: rest := by
  obtain ⟨_, _, hp', ht, _, hbs⟩ := pack_ok_wire h
  replace ht : p'.type ≠ .other := hp' ▸ ht
  obtain ⟨t, e⟩ := hdrBytes_cons v (specOf v p')
  refine ⟨(specOf v p').type, _, ?_, by rw [hbs, encode_split, e, List.cons_append]; rfl⟩
  cases hp : p'.type <;> simp [specOf, hp]
  exact ht hp

/-- the metadata pairs the decoder returns for a packed packet -/
def psOf (v : Ver) (vals : List Metadata.Pair) : List Metadata.Pair :=
  match v with | .v1 => [] | .v2 => Metadata.sortPairs vals

/-- the layout frame of ANY packet of known type whose body fits the length field is valid; its content is what its body stands for
under its own gzip flag. (`Pack` hands on the flag the threshold rule gives, so a stale flag on a relayed packet never gets here.) -/
theorem specOf_valid (v : Ver) (gz : GzOracle) (p : Packet) (content : Bytes) (ht : p.type ≠ .other)
    (hlen : p.body.length ≤ 16777215)
    (hmd : v = .v2 → Metadata.rawPairs (Metadata.marshalMap p.values 65535) = .ok (Metadata.sortPairs p.values))
    (hgz : if p.gzip then gz.read p.body = some (content, true) else content = p.body) :
    ValidFrame v gz (specOf v p) content (psOf v p.values) := by
  have hmdl := md_length_le p.values
  exact
    { type := by cases hp : p.type <;> simp [specOf, hp] <;> exact ht hp
      verify := by simp only [specOf]; split <;> omega
      gzip := by simp only [specOf]; split <;> omega
      reserve := Nat.zero_le 3
      cmd := Nat.mod_lt _ (by decide)
      rid := p.rid.toNat_lt
      timeout := p.timeout.toNat_lt
      status := p.status.toNat_lt
      nonce := p.nonce.toNat_lt
      sig := fun _ => sigWindow_length _
      body := Nat.lt_succ_of_le hlen
      md1 := fun h => by subst h; exact ⟨rfl, rfl⟩
      mdlen := by cases v <;> simp only [specOf, List.length_nil] <;> omega
      md2 := fun h => by subst h; exact hmd rfl
      gz1 := fun h => by cases hg : p.gzip <;> simp [specOf, hg] at h hgz; exact hgz
      gz0 := fun h => by cases hg : p.gzip <;> simp [specOf, hg] at h hgz; exact hgz }

end OAP.Frame
