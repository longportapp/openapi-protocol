/-
`func (p *protocolV1) Unpack(ctx, buf *ringbuffer.RingBuffer) (packet *Packet, done bool, err error)` (go/v1/v1.go) — the resumable
protocol-level decoder the TCP reader runs — as GENERATED by `extract/funcs.go` into `OAP/Gen/Funcs.lean`, is the hand-written
`Frame.unpackRing .v1` (OAP/Model/Stream.lean): for every oracle, codec, parked header and every WELL-FORMED ring the same parked header
afterwards, the same ring afterwards, the same packet / done / error, and a panic exactly where the model panics.
The header decoder is not unfolded again: `v1_header_unpack_gen'` (GenFuncsStream.lean) is used. The same for `(*protocolV2).Unpack`
(go/v2/v2.go) and `Frame.unpackRing .v2`, up to the key lower-casing of `UnmarshalValues` (second half of the file).

Why the ring must be well-formed (`Ring.WF`, the representation invariant every ring operation keeps, OAP/Model/Ring.lean): the
generated function does what Go does — `body := make([]byte, n); buf.Read(body)` leaves a zero-padded slice of length n when the ring
hands out fewer than n bytes, and a failing `Read` of the signature comes after `Retrieve(8)` — while the hand-written model takes the
bytes read as the body and keeps the ring of before the `Retrieve` on that error. On a well-formed ring `Length() ≥ n` makes `Read`
return exactly n bytes without error, so the two agree; on an ill-formed ring (never constructed) they do not.
-/
import OAP.Proofs.GenFuncsStream
import OAP.Proofs.GenFuncsProto
import OAP.Proofs.Bytes
namespace OAP.GenFuncs
open OAP OAP.Gen.Fn OAP.Frame

/-- the model's outcome record in the shape of the generated function's result: a panic is `Res.panic` (the state at the panic is
dropped), everything else is a value next to the parked header and the ring that the call leaves behind -/
def sout (o : SOut) : Res (Option Header × Ring × Option Packet × Bool × Option String) :=
  match o.res with
  | .panic w => .panic w
  | .more => .ok (o.pend, o.rb, none, false, none)
  | .pkt p => .ok (o.pend, o.rb, some p, true, none)
  | .err e => .ok (o.pend, o.rb, none, false, some e)

/-- the generated result in model types. Next to a returned error the packet is not compared (Go assigns `packet.Body` from the failed
`gzip.Decompress`, a value the oracle does not have; no caller looks at a packet that comes with an error) -/
def gout (r : Option V1Header × Ring × Option GPacket × Bool × Option String) : Option Header × Ring × Option Packet × Bool × Option String :=
  (r.1.map v1M, r.2.1, if r.2.2.2.2.isSome then none else r.2.2.1.map toModelPacket, r.2.2.2.1, r.2.2.2.2)

theorem toPacket_headerMd (g : V1Header) (codec : UInt8) :
    Header.toPacket (v1M g) codec = toModelPacket { metadata := headerMd g codec, body := [] } :=
  (toModel_headerMd g codec []).symm

theorem v1_unpack_body_gen (gz : GzOracle) (codec : UInt8) (g : V1Header) (hu : g.isUnpacked = true) (rb : Ring) (wf : rb.WF) :
    (v1_protocolV1_Unpack gz codec (some g) rb).map gout = sout (unpackBody .v1 gz codec (v1M g) rb) := by
  have H := wf.holds
  have hla := H.length
  have hbl : (v1M g).bodyLength = g.bodyLength := rfl
  have hv : (v1M g).verify = g.verify := rfl
  have hg : (v1M g).gzip = g.gzip := rfl
  have F := toPacket_headerMd g codec
  unfold v1_protocolV1_Unpack unpackBody
  simp only [Option.getD_some, hu, Bool.not_true, Bool.false_eq_true, ↓reduceIte, hbl, hv, hg, trailerLen_eq, Nat.add_zero, Option.map_some,
    Bool.false_or, Option.isSome_none, Option.isSome_some, Bool.or_true, Bool.true_or, v1_header_metadata_eq, rbind_ok, List.length_replicate]
  by_cases hv1 : g.verify = 1
  · simp only [hv1, beq_self_eq_true, ↓reduceIte, rbind_ok]
    by_cases hlt : rb.length < g.bodyLength.toNat + 24
    · simp [hlt, sout, gout, Res.map]
    · obtain ⟨rb2, hr2, H2⟩ := H.read g.bodyLength.toNat (by omega)
      obtain ⟨rb4, hr4, -⟩ := (H2.retrieve 8).read 16 (by simp only [List.length_drop]; omega)
      have hc1 := Bytes.copyAt_full g.bodyLength.toNat (rb.abs.take g.bodyLength.toNat) (by simp; omega)
      have hc2 := Bytes.copyAt_full 16 (((rb.abs.drop g.bodyLength.toNat).drop 8).take 16) (by simp; omega)
      simp only [hlt, decide_false, Bool.false_eq_true, ↓reduceIte, hr2, hc1, rbind_ok, H2.peekUint64, nonceLen_eq, sigLen_eq, hr4, hc2]
      by_cases hg1 : g.gzip = 1
      · simp only [hg1, beq_self_eq_true, ↓reduceIte]
        cases Gzip.decompress gz (List.take g.bodyLength.toNat rb.abs) <;>
          simp [Res.map, sout, gout, toModelPacket, F]
      · simp [hg1, Res.map, sout, gout, toModelPacket, F]
  · have hv0 : (g.verify == 1) = false := by simpa using hv1
    simp only [hv0, Bool.false_eq_true, ↓reduceIte, rbind_ok, Nat.add_zero]
    by_cases hlt : rb.length < g.bodyLength.toNat
    · simp [hlt, sout, gout, Res.map]
    · obtain ⟨rb2, hr2, -⟩ := H.read g.bodyLength.toNat (by omega)
      have hc1 := Bytes.copyAt_full g.bodyLength.toNat (rb.abs.take g.bodyLength.toNat) (by simp; omega)
      simp only [hlt, decide_false, Bool.false_eq_true, ↓reduceIte, hr2, hc1, rbind_ok]
      by_cases hg1 : g.gzip = 1
      · simp only [hg1, beq_self_eq_true, ↓reduceIte]
        cases Gzip.decompress gz (List.take g.bodyLength.toNat rb.abs) <;>
          simp [Res.map, sout, gout, toModelPacket, F]
      · simp [hg1, Res.map, sout, gout, toModelPacket, F]

/-- what the generated `Header.Unpack` returned, read off the model's outcome record -/
theorem hdr_result {G : Type} {toM : G → Header} {U : Res (G × Ring × Bool × Option String)} {o : HOut}
    (H : U.map (fun p => (toM p.1, p.2)) = hout o) :
    (∃ w, U = .panic w ∧ o.panic = some w) ∨
    (∃ g', U = .ok (g', o.rb, o.done, o.err) ∧ o.panic = none ∧ o.h = toM g') := by
  obtain ⟨odone, oerr, opanic, oh, orb⟩ := o
  rcases U with ⟨g', rb', ok, e⟩ | e | w <;> cases opanic <;> simp [hout, Res.map] at H
  · obtain ⟨rfl, rfl, rfl, rfl⟩ := H; exact .inr ⟨g', rfl, rfl, rfl⟩
  · exact .inl ⟨_, rfl, by rw [H]⟩

theorem v1_protocol_unpack_some (gz : GzOracle) (codec : UInt8) (g : V1Header) (rb : Ring) (wf : rb.WF) :
    (v1_protocolV1_Unpack gz codec (some g) rb).map gout = sout (Frame.unpackRing .v1 gz codec (some (v1M g)) rb) := by
  unfold Frame.unpackRing
  simp only [Option.getD_some]
  cases hu : g.isUnpacked
  · have hum : (v1M g).isUnpacked = false := hu
    simp only [hum, Bool.not_false, ↓reduceIte]
    obtain ⟨wfo, hdone⟩ := hdr_unpackRing_facts .v1 (v1M g) rb wf
    unfold v1_protocolV1_Unpack
    simp only [Option.getD_some, hu, Bool.not_false, ↓reduceIte]
    rcases hdr_result (v1_header_unpack_gen' g rb) with ⟨w, hU, hp⟩ | ⟨g', hU, hp, hh⟩
    · rw [hU, hp]; rfl
    · rw [hU, hp, rbind_ok]
      cases he : (Header.unpackRing .v1 (v1M g) rb).err with
      | some e => simp [Res.map, sout, gout]
      | none =>
        cases hd : (Header.unpackRing .v1 (v1M g) rb).done with
        | false => simp [hh, Res.map, sout, gout]
        | true =>
          -- done: the rest is the same code as in the branch for a parked, unpacked header
          have hg' : g'.isUnpacked = true := by have := hdone hd; rwa [hh] at this
          have R := v1_unpack_body_gen gz codec g' hg' _ wfo
          unfold v1_protocolV1_Unpack at R
          simp only [Option.getD_some, hg', Bool.not_true, Bool.false_eq_true, ↓reduceIte, Option.map_some] at R
          simp only [Option.isSome_none, Bool.false_eq_true, ↓reduceIte, Bool.not_true, Option.map_some, hh]
          exact R
  · have hum : (v1M g).isUnpacked = true := hu
    simp only [hum, Bool.not_true, Bool.false_eq_true, ↓reduceIte]
    exact v1_unpack_body_gen gz codec g hu rb wf

/-! v2: the same function with a metadata block in front of the body. `packet.UnmarshalMetadata(md)` lower-cases the keys, the
streaming model keeps the raw pairs: as for the one-shot decoder (`v2_unpackBytes_gen`) the model's packet is compared after
`lowerKeys lower`. -/

def soutL (lower : Bytes → Bytes) (o : SOut) : Res (Option Header × Ring × Option Packet × Bool × Option String) :=
  match o.res with
  | .panic w => .panic w
  | .more => .ok (o.pend, o.rb, none, false, none)
  | .pkt p => .ok (o.pend, o.rb, some (lowerKeys lower p), true, none)
  | .err e => .ok (o.pend, o.rb, none, false, some e)

def gout2 (r : Option V2Header × Ring × Option GPacket × Bool × Option String) : Option Header × Ring × Option Packet × Bool × Option String :=
  (r.1.map v2M, r.2.1, if r.2.2.2.2.isSome then none else r.2.2.1.map toModelPacket, r.2.2.2.1, r.2.2.2.2)

theorem v2_unpack_body_gen (gz : GzOracle) (lower : Bytes → Bytes) (codec : UInt8) (g : V2Header) (hu : g.isUnpacked = true)
    (rb : Ring) (wf : rb.WF) :
    (v2_protocolV2_Unpack gz lower codec (some g) rb).map gout2 = soutL lower (unpackBody .v2 gz codec (v2M g) rb) := by
  have H := wf.holds
  have hla := H.length
  have hbl : (v2M g).bodyLength = g.bodyLength := rfl
  have hml : (v2M g).metadataLength = g.metadataLength := rfl
  have hv : (v2M g).verify = g.verify := rfl
  have hg : (v2M g).gzip = g.gzip := rfl
  have hP : Header.toPacket (v1M g.toV1Header) codec = Header.toPacket (v2M g) codec := rfl
  have F := toPacket_headerMd g.toV1Header codec
  rw [hP] at F
  have hup : v1_Header_Unpacked g.toV1Header = .ok true := by simp [v1_Header_Unpacked, V2Header.toV1Header, hu]
  unfold v2_protocolV2_Unpack unpackBody
  simp only [Option.getD_some, hup, Bool.not_true, Bool.false_eq_true, ↓reduceIte, hbl, hml, hv, hg, trailerLen_eq, Option.map_some,
    Bool.false_or, Option.isSome_none, Option.isSome_some, Bool.or_true, Bool.true_or, v1_header_metadata_eq, rbind_ok, List.length_replicate]
  by_cases hv1 : g.verify = 1
  · simp only [hv1, beq_self_eq_true, ↓reduceIte, rbind_ok]
    by_cases hlt : rb.length < g.bodyLength.toNat + g.metadataLength.toNat + 24
    · simp [hlt, soutL, gout2, Res.map]
    · obtain ⟨rb1, hr1, H1⟩ := H.read g.metadataLength.toNat (by omega)
      obtain ⟨rb2, hr2, H2⟩ := H1.read g.bodyLength.toNat (by simp only [List.length_drop]; omega)
      obtain ⟨rb4, hr4, -⟩ := (H2.retrieve 8).read 16 (by simp only [List.length_drop]; omega)
      have hc0 := Bytes.copyAt_full g.metadataLength.toNat (rb.abs.take g.metadataLength.toNat) (by simp; omega)
      have hc1 := Bytes.copyAt_full g.bodyLength.toNat ((rb.abs.drop g.metadataLength.toNat).take g.bodyLength.toNat) (by simp; omega)
      have hc2 := Bytes.copyAt_full 16 ((((rb.abs.drop g.metadataLength.toNat).drop g.bodyLength.toNat).drop 8).take 16) (by simp; omega)
      simp only [hlt, decide_false, Bool.false_eq_true, ↓reduceIte, hr1, hc0, hr2, hc1, rbind_ok, H2.peekUint64, nonceLen_eq, sigLen_eq, hr4, hc2]
      unfold Metadata.unmarshalValues
      cases hr : Metadata.rawPairs (List.take g.metadataLength.toNat rb.abs) with
      | err e => simp [Res.map, soutL, gout2]
      | panic w => simp [Res.map, soutL]
      | ok ps =>
        simp only [Res.map]
        by_cases hg1 : g.gzip = 1
        · simp only [hg1, beq_self_eq_true, ↓reduceIte]
          cases Gzip.decompress gz ((rb.abs.drop g.metadataLength.toNat).take g.bodyLength.toNat) <;>
            simp [soutL, gout2, toModelPacket, lowerKeys, F]
        · simp [hg1, soutL, gout2, toModelPacket, lowerKeys, F]
  · have hv0 : (g.verify == 1) = false := by simpa using hv1
    simp only [hv0, Bool.false_eq_true, ↓reduceIte, rbind_ok, Nat.add_zero]
    by_cases hlt : rb.length < g.bodyLength.toNat + g.metadataLength.toNat
    · simp [hlt, soutL, gout2, Res.map]
    · obtain ⟨rb1, hr1, H1⟩ := H.read g.metadataLength.toNat (by omega)
      obtain ⟨rb2, hr2, -⟩ := H1.read g.bodyLength.toNat (by simp only [List.length_drop]; omega)
      have hc0 := Bytes.copyAt_full g.metadataLength.toNat (rb.abs.take g.metadataLength.toNat) (by simp; omega)
      have hc1 := Bytes.copyAt_full g.bodyLength.toNat ((rb.abs.drop g.metadataLength.toNat).take g.bodyLength.toNat) (by simp; omega)
      simp only [hlt, decide_false, Bool.false_eq_true, ↓reduceIte, hr1, hc0, hr2, hc1, rbind_ok]
      unfold Metadata.unmarshalValues
      cases hr : Metadata.rawPairs (List.take g.metadataLength.toNat rb.abs) with
      | err e => simp [Res.map, soutL, gout2]
      | panic w => simp [Res.map, soutL]
      | ok ps =>
        simp only [Res.map]
        by_cases hg1 : g.gzip = 1
        · simp only [hg1, beq_self_eq_true, ↓reduceIte]
          cases Gzip.decompress gz ((rb.abs.drop g.metadataLength.toNat).take g.bodyLength.toNat) <;>
            simp [soutL, gout2, toModelPacket, lowerKeys, F]
        · simp [hg1, soutL, gout2, toModelPacket, lowerKeys, F]

theorem v2_protocol_unpack_some (gz : GzOracle) (lower : Bytes → Bytes) (codec : UInt8) (g : V2Header) (rb : Ring) (wf : rb.WF) :
    (v2_protocolV2_Unpack gz lower codec (some g) rb).map gout2 = soutL lower (Frame.unpackRing .v2 gz codec (some (v2M g)) rb) := by
  unfold Frame.unpackRing
  simp only [Option.getD_some]
  cases hu : g.isUnpacked
  · have hum : (v2M g).isUnpacked = false := hu
    simp only [hum, Bool.not_false, ↓reduceIte]
    obtain ⟨wfo, hdone⟩ := hdr_unpackRing_facts .v2 (v2M g) rb wf
    have hup : v1_Header_Unpacked g.toV1Header = .ok false := by simp [v1_Header_Unpacked, V2Header.toV1Header, hu]
    unfold v2_protocolV2_Unpack
    simp only [Option.getD_some, hup, rbind_ok, Bool.not_false, ↓reduceIte]
    rcases hdr_result (v2_header_unpack_gen' g rb) with ⟨w, hU, hp⟩ | ⟨g', hU, hp, hh⟩
    · rw [hU, hp]; rfl
    · rw [hU, hp, rbind_ok]
      cases he : (Header.unpackRing .v2 (v2M g) rb).err with
      | some e => simp [Res.map, soutL, gout2]
      | none =>
        cases hd : (Header.unpackRing .v2 (v2M g) rb).done with
        | false => simp [hh, Res.map, soutL, gout2]
        | true =>
          have hg' : g'.isUnpacked = true := by have := hdone hd; rwa [hh] at this
          have hup' : v1_Header_Unpacked g'.toV1Header = .ok true := by simp [v1_Header_Unpacked, V2Header.toV1Header, hg']
          have R := v2_unpack_body_gen gz lower codec g' hg' _ wfo
          unfold v2_protocolV2_Unpack at R
          simp only [Option.getD_some, hup', rbind_ok, Bool.not_true, Bool.false_eq_true, ↓reduceIte, Option.map_some] at R
          simp only [Option.isSome_none, Bool.false_eq_true, ↓reduceIte, Bool.not_true, Option.map_some, hh]
          exact R
  · have hum : (v2M g).isUnpacked = true := hu
    simp only [hum, Bool.not_true, Bool.false_eq_true, ↓reduceIte]
    exact v2_unpack_body_gen gz lower codec g hu rb wf

/-! ## non-vacuity, decided -/

/-- a v1 push frame (type 3, cmd 7, body length 2) whose body has not arrived yet: the generated decoder consumes the five header bytes,
reports "more" (`done = false`, no error, no packet) and leaves the unpacked header PARKED; called again with the parked header on the
ring that now holds the body it returns the packet, `done`, and releases the header -/
theorem v1_unpack_resume_example :
    (match v1_protocolV1_Unpack ⟨fun _ => .err "none", fun _ => none⟩ 0 none
        { buf := [0x03, 0x07, 0, 0, 2, 0, 0, 0], size := 8, r := 0, w := 5, isEmpty := false } with
     | .ok (some g, rb', none, false, none) =>
       g.isUnpacked && g.bodyLength == 2 && rb'.isEmpty &&
       (match v1_protocolV1_Unpack ⟨fun _ => .err "none", fun _ => none⟩ 0 (some g)
          { buf := [0x03, 0x07, 0, 0, 2, 0xAA, 0xBB, 0], size := 8, r := 5, w := 7, isEmpty := false } with
        | .ok (none, rb'', some p, true, none) => p.body == [0xAA, 0xBB] && p.metadata.cmdCode == 7 && rb''.isEmpty
        | _ => false)
     | _ => false) = true := by decide

/-- an unknown packet type: the error comes with the header released (`pend = none`) and byte 0 consumed -/
theorem v1_unpack_error_example :
    (match v1_protocolV1_Unpack ⟨fun _ => .err "none", fun _ => none⟩ 0 none { buf := [0x04, 0x09], size := 2, r := 0, w := 0, isEmpty := false } with
     | .ok (none, rb', none, false, some e) => e == "invalid packet type" && rb'.length == 1
     | _ => false) = true := by decide

end OAP.GenFuncs
