/-
Big-endian fields, once. `Spec.be n k` (the k big-endian bytes of n) and `Spec.val bs` (the value of a byte string) are
inverse to each other up to `% 256 ^ k`, by induction on the width. Every shift-and-or encoder / decoder of `OAP.Base`
is an instance: `beN x = Spec.be x.toNat N` and `(rdN …).toNat = Spec.val […]`; all round trips follow in a line.
`Q.uN` are the total readers at the head of a byte queue (0 on a short one).
Two ways of naming meet here: the per-width round trips read inner function first (`be16_rd16 : rd16 (bytes of x) = x`,
`rd16_be16 : be16 (rd16 a b) = [a, b]`), the kit's own lemmas outer function first, as core's do (`val_be : val (be n k) = …`, `Q.u16_be`).
-/
import OAP.Spec.Layout
namespace OAP

namespace Spec

@[simp] theorem val_nil : val [] = 0 := rfl

theorem val_cons (b : UInt8) (bs : Bytes) : val (b :: bs) = b.toNat * 256 ^ bs.length + val bs := by
  have h : ∀ (l : Bytes) (acc : Nat),
      l.foldl (fun a b => a * 256 + b.toNat) acc = acc * 256 ^ l.length + l.foldl (fun a b => a * 256 + b.toNat) 0 := by
    intro l
    induction l with
    | nil => simp
    | cons c l ih =>
      intro acc
      rw [List.foldl_cons, ih, List.foldl_cons, ih (0 * 256 + c.toNat), List.length_cons, Nat.pow_succ]
      simp [Nat.add_mul, Nat.mul_assoc, Nat.mul_comm 256, Nat.add_assoc]
  rw [val, List.foldl_cons, h]; simp [val]

theorem val_lt (bs : Bytes) : val bs < 256 ^ bs.length := by
  induction bs with
  | nil => simp
  | cons b bs ih =>
    have := b.toNat_lt
    rw [val_cons, List.length_cons, Nat.pow_succ]
    calc b.toNat * 256 ^ bs.length + val bs < b.toNat * 256 ^ bs.length + 256 ^ bs.length := by omega
      _ = (b.toNat + 1) * 256 ^ bs.length := by rw [Nat.add_mul, Nat.one_mul]
      _ ≤ 256 ^ bs.length * 256 := by rw [Nat.mul_comm]; exact Nat.mul_le_mul_left _ (by omega)

@[simp] theorem be_length (n k : Nat) : (be n k).length = k := by
  induction k with
  | zero => rfl
  | succ k ih => simp [be, ih]

theorem val_be (n k : Nat) : val (be n k) = n % 256 ^ k := by
  induction k with
  | zero => simp [be, Nat.mod_one]
  | succ k ih =>
    have e : n / 256 ^ k % 256 % 2 ^ 8 = n / 256 ^ k % 256 := by omega
    rw [be, val_cons, be_length, ih, UInt8.toNat_ofNat', e, Nat.mod_pow_succ, Nat.mul_comm, Nat.add_comm]

theorem be_mul_add (a r k : Nat) : be (256 ^ k * a + r) k = be r k := by
  induction k generalizing a with
  | zero => rfl
  | succ k ih =>
    rw [be, be, Nat.pow_succ, Nat.mul_assoc, ih, Nat.mul_add_div (Nat.pow_pos (by decide)), Nat.mul_add_mod]

theorem be_mod (n k j : Nat) (h : k ≤ j) : be (n % 256 ^ j) k = be n k := by
  obtain ⟨d, rfl⟩ := Nat.exists_eq_add_of_le h
  have e : n = 256 ^ k * (256 ^ d * (n / 256 ^ (k + d))) + n % 256 ^ (k + d) := by
    rw [← Nat.mul_assoc, ← Nat.pow_add, Nat.div_add_mod]
  conv => rhs; rw [e, be_mul_add]

theorem be_val (bs : Bytes) : be (val bs) bs.length = bs := by
  induction bs with
  | nil => rfl
  | cons b bs ih =>
    rw [List.length_cons, be, val_cons, Nat.mul_comm, be_mul_add, ih, Nat.mul_add_div (Nat.pow_pos (by decide)),
      Nat.div_eq_of_lt (val_lt bs), Nat.add_zero, Nat.mod_eq_of_lt b.toNat_lt, UInt8.ofNat_toNat]

/-- the only fact about `|||` that is needed: a byte shifted above a shorter value does not overlap it -/
theorem val_cons_or (b : UInt8) (bs : Bytes) : val (b :: bs) = b.toNat <<< (8 * bs.length) ||| val bs := by
  have h := val_lt bs
  have p : 256 ^ bs.length = 2 ^ (8 * bs.length) := by rw [Nat.pow_mul]
  rw [p] at h
  rw [val_cons, p, ← Nat.shiftLeft_eq, Nat.shiftLeft_add_eq_or_of_lt h]

end Spec

open Spec

theorem be16_spec (x : UInt16) : be16 x = Spec.be x.toNat 2 := by
  simp [be16, Spec.be, ← UInt8.toNat_inj, Nat.shiftRight_eq_div_pow]
theorem be24_spec (x : UInt32) : be24 x = Spec.be x.toNat 3 := by
  simp [be24, Spec.be, ← UInt8.toNat_inj, Nat.shiftRight_eq_div_pow]
theorem be32_spec (x : UInt32) : be32 x = Spec.be x.toNat 4 := by
  simp [be32, Spec.be, ← UInt8.toNat_inj, Nat.shiftRight_eq_div_pow]
theorem be64_spec (x : UInt64) : be64 x = Spec.be x.toNat 8 := by
  simp [be64, Spec.be, ← UInt8.toNat_inj, Nat.shiftRight_eq_div_pow]

/-- no range hypothesis: the length fields are written through `ofNat`, and `be` truncates in the same way -/
theorem be16_ofNat (n : Nat) : be16 (UInt16.ofNat n) = Spec.be n 2 := by
  rw [be16_spec, UInt16.toNat_ofNat']; exact be_mod n 2 2 (Nat.le_refl _)
theorem be24_ofNat (n : Nat) : be24 (UInt32.ofNat n) = Spec.be n 3 := by
  rw [be24_spec, UInt32.toNat_ofNat']; exact be_mod n 3 4 (by decide)

-- the `% 2 ^ w` of a word shift never bites a byte
theorem rd16_val (a b : UInt8) : (rd16 a b).toNat = val [a, b] := by
  have := a.toNat_lt
  simp (disch := omega) [rd16, val_cons_or, Nat.mod_eq_of_lt]
theorem rd24_val (a b c : UInt8) : (rd24 a b c).toNat = val [a, b, c] := by
  have := a.toNat_lt; have := b.toNat_lt
  simp (disch := omega) [rd24, val_cons_or, Nat.or_assoc, Nat.mod_eq_of_lt]
theorem rd32_val (a b c d : UInt8) : (rd32 a b c d).toNat = val [a, b, c, d] := by
  have := a.toNat_lt; have := b.toNat_lt; have := c.toNat_lt
  simp (disch := omega) [rd32, val_cons_or, Nat.or_assoc, Nat.mod_eq_of_lt]
theorem rd64_val (a b c d e f g h : UInt8) : (rd64 a b c d e f g h).toNat = val [a, b, c, d, e, f, g, h] := by
  have := a.toNat_lt; have := b.toNat_lt; have := c.toNat_lt; have := d.toNat_lt
  have := e.toNat_lt; have := f.toNat_lt; have := g.toNat_lt
  simp (disch := omega) [rd64, val_cons_or, Nat.or_assoc, Nat.mod_eq_of_lt]

theorem rd24_lt (a b c : UInt8) : (rd24 a b c).toNat < 16777216 := by
  rw [rd24_val]; simpa using val_lt [a, b, c]

theorem be16_rd16 (x : UInt16) : rd16 (x >>> (8 : UInt16)).toUInt8 x.toUInt8 = x := by
  apply UInt16.toNat_inj.mp
  rw [rd16_val]
  show val (be16 x) = _
  rw [be16_spec, val_be]; exact Nat.mod_eq_of_lt x.toNat_lt

theorem be32_rd32 (x : UInt32) :
    rd32 (x >>> (24 : UInt32)).toUInt8 (x >>> (16 : UInt32)).toUInt8 (x >>> (8 : UInt32)).toUInt8 x.toUInt8 = x := by
  apply UInt32.toNat_inj.mp
  rw [rd32_val]
  show val (be32 x) = _
  rw [be32_spec, val_be]; exact Nat.mod_eq_of_lt x.toNat_lt

theorem be24_rd24 (x : UInt32) (hx : x.toNat < 16777216) :
    rd24 (x >>> (16 : UInt32)).toUInt8 (x >>> (8 : UInt32)).toUInt8 x.toUInt8 = x := by
  apply UInt32.toNat_inj.mp
  rw [rd24_val]
  show val (be24 x) = _
  rw [be24_spec, val_be]; exact Nat.mod_eq_of_lt hx

theorem be64_rd64 (x : UInt64) :
    rd64 (x >>> (56 : UInt64)).toUInt8 (x >>> (48 : UInt64)).toUInt8 (x >>> (40 : UInt64)).toUInt8
      (x >>> (32 : UInt64)).toUInt8 (x >>> (24 : UInt64)).toUInt8 (x >>> (16 : UInt64)).toUInt8
      (x >>> (8 : UInt64)).toUInt8 x.toUInt8 = x := by
  apply UInt64.toNat_inj.mp
  rw [rd64_val]
  show val (be64 x) = _
  rw [be64_spec, val_be]; exact Nat.mod_eq_of_lt x.toNat_lt

theorem rd16_be16 (a b : UInt8) : be16 (rd16 a b) = [a, b] := by
  rw [be16_spec, rd16_val]; exact be_val [a, b]

theorem rd24_be24 (a b c : UInt8) : be24 (rd24 a b c) = [a, b, c] := by
  rw [be24_spec, rd24_val]; exact be_val [a, b, c]
theorem rd32_be32 (a b c d : UInt8) : be32 (rd32 a b c d) = [a, b, c, d] := by
  rw [be32_spec, rd32_val]; exact be_val [a, b, c, d]

theorem rd24_be (n : Nat) (h : n < 16777216) (r : Bytes) :
    ∃ a b c, be n 3 ++ r = a :: b :: c :: r ∧ rd24 a b c = UInt32.ofNat n := by
  refine ⟨_, _, _, rfl, UInt32.toNat_inj.mp ?_⟩
  rw [rd24_val]
  show val (be n 3) = _
  rw [val_be, UInt32.toNat_ofNat']
  omega

theorem drop_be (n k : Nat) (r : Bytes) : (be n k ++ r).drop k = r := by
  rw [List.drop_left' (be_length n k)]

namespace Q
def u8 : Bytes → UInt8
  | a :: _ => a
  | _ => 0
def u16 : Bytes → UInt16
  | a :: b :: _ => rd16 a b
  | _ => 0
def u32 : Bytes → UInt32
  | a :: b :: c :: d :: _ => rd32 a b c d
  | _ => 0
def u64 : Bytes → UInt64
  | a :: b :: c :: d :: e :: f :: g :: h :: _ => rd64 a b c d e f g h
  | _ => 0

theorem u8_be (n : Nat) (r : Bytes) : u8 (be n 1 ++ r) = UInt8.ofNat n := by
  simp [be, u8, ← UInt8.toNat_inj]
theorem u16_be (n : Nat) (r : Bytes) : u16 (be n 2 ++ r) = UInt16.ofNat n := by
  apply UInt16.toNat_inj.mp
  show (rd16 _ _).toNat = _
  rw [rd16_val]
  show val (be n 2) = _
  rw [val_be, UInt16.toNat_ofNat']
theorem u32_be (n : Nat) (r : Bytes) : u32 (be n 4 ++ r) = UInt32.ofNat n := by
  apply UInt32.toNat_inj.mp
  show (rd32 _ _ _ _).toNat = _
  rw [rd32_val]
  show val (be n 4) = _
  rw [val_be, UInt32.toNat_ofNat']
theorem u64_be (n : Nat) (r : Bytes) : u64 (be n 8 ++ r) = UInt64.ofNat n := by
  apply UInt64.toNat_inj.mp
  show (rd64 _ _ _ _ _ _ _ _).toNat = _
  rw [rd64_val]
  show val (be n 8) = _
  rw [val_be, UInt64.toNat_ofNat']
end Q

end OAP
