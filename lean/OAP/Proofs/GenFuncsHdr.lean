/-
v1/v2 Header.Pack and Header.UnpackBytes (go/v1/header.go, go/v2/v2_header.go) = Frame.Header.pack / Frame.Header.unpackBytes.
Part of the function-level T2 tie: the GENERATED translations in `OAP/Gen/Funcs.lean` (rewritten from the Go source by
`extract/funcs.go` on every run) are proved equal to the hand-written model functions the property theorems are about.
The v1 and v2 functions are put side by side as one function of the version (`genHeaderPack`, `genUnpackBytes`), so that each
equality is one statement and one script.
-/
import OAP.Gen.Funcs
import OAP.Proofs.Header
namespace OAP.GenFuncs
open OAP OAP.Gen.Fn

def v1G (h : Header) : V1Header :=
  { requestId := h.requestId, bodyLength := h.bodyLength, timeout := h.timeout, type := h.type, verify := h.verify, gzip := h.gzip,
    reserve := h.reserve, cmdCode := h.cmdCode, statusCode := h.statusCode, beginUnpack := h.beginUnpack, isUnpacked := h.isUnpacked }
def v2G (h : Header) : V2Header :=
  { metadataLength := h.metadataLength, requestId := h.requestId, bodyLength := h.bodyLength, timeout := h.timeout, type := h.type, verify := h.verify, gzip := h.gzip,
    reserve := h.reserve, cmdCode := h.cmdCode, statusCode := h.statusCode, beginUnpack := h.beginUnpack, isUnpacked := h.isUnpacked }
def v1M (g : V1Header) : Header :=
  { requestId := g.requestId, bodyLength := g.bodyLength, timeout := g.timeout, type := g.type, verify := g.verify, gzip := g.gzip,
    reserve := g.reserve, cmdCode := g.cmdCode, statusCode := g.statusCode, beginUnpack := g.beginUnpack, isUnpacked := g.isUnpacked }
def v2M (g : V2Header) : Header :=
  { metadataLength := g.metadataLength, requestId := g.requestId, bodyLength := g.bodyLength, timeout := g.timeout, type := g.type, verify := g.verify, gzip := g.gzip,
    reserve := g.reserve, cmdCode := g.cmdCode, statusCode := g.statusCode, beginUnpack := g.beginUnpack, isUnpacked := g.isUnpacked }

/-! `Res.bind` is the spelling in the generated code. Not by `rfl`: see `Res.ok_bind'` (OAP.Base), the `>>=` form. -/
theorem rbind_ok {α β} (a : α) (f : α → Res β) : Res.bind (.ok a) f = f a := by unfold Res.bind; rfl
theorem rbind_err {α β} (e : String) (f : α → Res β) : Res.bind (.err e) f = .err e := by unfold Res.bind; rfl
theorem rbind_panic {α β} (w : String) (f : α → Res β) : Res.bind (.panic w) f = .panic w := by unfold Res.bind; rfl

theorem type123_or_other (t : UInt8) : (t = 1 ∨ t = 2 ∨ t = 3) ∨ (¬ t = 1 ∧ ¬ t = 2 ∧ ¬ t = 3) := by
  by_cases h1 : t = 1 <;> by_cases h2 : t = 2 <;> by_cases h3 : t = 3 <;> simp [h1, h2, h3]

theorem gt_ofNat_iff (a : UInt32) (n : Nat) (hn : n < 4294967296) : (a > UInt32.ofNat n) ↔ a.toNat > n := by
  rw [gt_iff_lt, UInt32.lt_iff_toNat_lt]; simp [Nat.mod_eq_of_lt hn]

def genHeaderPack : Ver → Header → Res Bytes
  | .v1, h => v1_Header_Pack (v1G h)
  | .v2, h => v2_Header_Pack (v2G h)

theorem header_pack_gen (v : Ver) (h : Header) : genHeaderPack v h = Frame.Header.pack v h := by
  have hb : (h.bodyLength > (16777215 : UInt32)) ↔ h.bodyLength.toNat > 16777215 := gt_ofNat_iff h.bodyLength 16777215 (by omega)
  have hk := type123_or_other h.type
  cases v <;>
    (unfold genHeaderPack v1_Header_Pack v2_Header_Pack Frame.Header.pack
     simp only [v1_Header_IsUnknownPacket, v1_Header_length, v2_Header_length, v1G, v2G, V2Header.toV1Header,
       Frame.isUnknown, Frame.tReq, Frame.tResp, Frame.tPush, Gen.v1_RequestPacket, Gen.v1_ResponsePacket, Gen.v1_PushPacket,
       Gen.v1_MaxBodyLength, Frame.packB0, Frame.packLen, Gen.v1PackB0, Gen.v1PackLen0, Gen.v1PackLen1, Gen.v1PackLen2,
       Gen.v2PackB0, Gen.v2PackLen0, Gen.v2PackLen1, Gen.v2PackLen2]
     by_cases hl : h.bodyLength.toNat > 16777215 <;> rcases hk with (ht | ht | ht) | ht <;>
       simp [ht, hl, hb, rbind_ok, Bytes.set, Bytes.putBE32, Bytes.putBE16, be32, be16, List.replicate])

theorem v1_header_pack_gen (h : Header) : v1_Header_Pack (v1G h) = Frame.Header.pack .v1 h := header_pack_gen .v1 h
theorem v2_header_pack_gen (h : Header) : v2_Header_Pack (v2G h) = Frame.Header.pack .v2 h := header_pack_gen .v2 h

def genUnpackBytes : Ver → Bytes → Res (Header × Bytes)
  | .v1, f => (v1_Header_UnpackBytes {} f).map fun p => (v1M p.1, p.2)
  | .v2, f => (v2_Header_UnpackBytes {} f).map fun p => (v2M p.1, p.2)

theorem header_unpackBytes_gen (v : Ver) (frame : Bytes) : genUnpackBytes v frame = Frame.Header.unpackBytes v frame := by
  match frame with
  | [] => cases v <;> rfl
  | b :: rest =>
    have e0 : ∀ t, Bytes.idx (b :: t) 0 = .ok b := fun _ => rfl
    rw [Frame.Header.unpackBytes_cons]
    rcases type123_or_other ((15 : UInt8) &&& b) with hk | hk
    · by_cases hl : Frame.hdrLen v ((15 : UInt8) &&& b) - 1 ≤ rest.length
      · -- a complete header is a fixed layout of at most 13 bytes: with that many peeled off and the type nibble put in (the only
        -- thing evaluation cannot see through) the generated decoder and `restAbs` are evaluated, `rfl`, one kernel reduction
        rcases hk with ht | ht | ht <;> rw [ht] at hl <;> cases v <;> (repeat decons hl) <;>
          (unfold genUnpackBytes v1_Header_UnpackBytes v2_Header_UnpackBytes
           simp only [e0, rbind_ok, Frame.ubType, Gen.v1UbType, Gen.v2UbType, Frame.parse0, Frame.usType, Gen.v1UsType, Gen.v2UsType, ht]
           rfl)
      · -- too short for its type, or (last bullet) an unknown type: the generated decoder does not read past byte 0
        rcases hk with ht | ht | ht <;> rw [ht] at hl <;> cases v <;>
          (simp [Frame.hdrLen, Frame.reqLen, Frame.respLen, Frame.pushLen, Frame.tReq, Frame.tResp, Gen.v1_RequestPacket, Gen.v1_ResponsePacket,
             Gen.v1_RequestHeaderLen, Gen.v2_RequestHeaderLen, Gen.v1_ResponseHeaderLen, Gen.v2_ResponseHeaderLen, Gen.v1_PushHeaderLen, Gen.v2_PushHeaderLen] at hl
           unfold genUnpackBytes v1_Header_UnpackBytes v2_Header_UnpackBytes
           simp [e0, rbind_ok, ht, hl, Frame.ubType, Gen.v1UbType, Gen.v2UbType, v1_Header_IsUnknownPacket, V2Header.toV1Header, Frame.isUnknown, Frame.hdrLen,
             Frame.reqLen, Frame.respLen, Frame.pushLen, Frame.tReq, Frame.tResp, Frame.tPush, Gen.v1_RequestPacket, Gen.v1_ResponsePacket, Gen.v1_PushPacket,
             Gen.v1_RequestHeaderLen, Gen.v2_RequestHeaderLen, Gen.v1_ResponseHeaderLen, Gen.v2_ResponseHeaderLen, Gen.v1_PushHeaderLen, Gen.v2_PushHeaderLen, Res.map])
    · cases v <;>
        (unfold genUnpackBytes v1_Header_UnpackBytes v2_Header_UnpackBytes
         simp [e0, rbind_ok, hk, Frame.ubType, Gen.v1UbType, Gen.v2UbType, v1_Header_IsUnknownPacket, V2Header.toV1Header, Frame.isUnknown,
           Frame.tReq, Frame.tResp, Frame.tPush, Gen.v1_RequestPacket, Gen.v1_ResponsePacket, Gen.v1_PushPacket, Res.map])

theorem v1_header_unpackBytes_gen (frame : Bytes) :
    (v1_Header_UnpackBytes {} frame).map (fun p => (v1M p.1, p.2)) = Frame.Header.unpackBytes .v1 frame :=
  header_unpackBytes_gen .v1 frame

theorem v2_header_unpackBytes_gen (frame : Bytes) :
    (v2_Header_UnpackBytes {} frame).map (fun p => (v2M p.1, p.2)) = Frame.Header.unpackBytes .v2 frame :=
  header_unpackBytes_gen .v2 frame

end OAP.GenFuncs
