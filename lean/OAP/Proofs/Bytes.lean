/-
The checked buffer writes of `OAP.Base` (`copy`, `PutUint64`) on a buffer that is a written prefix followed by zeros — the shape
`make([]byte, n)` has while an encoder fills it from the left, or a decoder reads into it.
-/
import OAP.Base
namespace OAP.Bytes

/-- `copy` into `n` zero bytes, for a source of ANY length: cut to `n` bytes or zero-padded to `n` -/
theorem copyAt_window (a : Bytes) (n off : Nat) (src : Bytes) (ho : off = a.length) :
    copyAt (a ++ List.replicate n 0) off src = .ok (a ++ src.take n ++ List.replicate (n - src.length) 0) := by
  subst ho
  have hn : n - min n src.length = n - src.length := by rw [Nat.min_def]; split <;> omega
  simp [copyAt, hn, ← List.take_eq_take_min, List.drop_length_add_append]

theorem copyAt_zeros (a : Bytes) (n off : Nat) (src : Bytes) (ho : off = a.length) (h : src.length ≤ n) :
    copyAt (a ++ List.replicate n 0) off src = .ok (a ++ src ++ List.replicate (n - src.length) 0) := by
  rw [copyAt_window a n off src ho, List.take_of_length_le h]

theorem copyAt_zeros0 (n : Nat) (src : Bytes) (h : src.length ≤ n) :
    copyAt (List.replicate n 0) 0 src = .ok (src ++ List.replicate (n - src.length) 0) := by
  simpa using copyAt_zeros [] n 0 src rfl h

/-- `b := make([]byte, n); copy(b, src)` with `len(src) = n` -/
theorem copyAt_full (n : Nat) (src : Bytes) (h : src.length = n) : copyAt (List.replicate n 0) 0 src = .ok src := by
  simpa [h] using copyAt_zeros0 n src (by omega)

theorem copyAt_nil {d d' : Bytes} {off : Nat} (h : copyAt d off [] = .ok d') : d' = d := by
  unfold copyAt at h
  split at h
  · simpa using h.symm
  · cases h

theorem copyAt_trunc (a : Bytes) (n off : Nat) (src : Bytes) (ho : off = a.length) (h : n ≤ src.length) :
    copyAt (a ++ List.replicate n 0) off src = .ok (a ++ src.take n) := by
  rw [copyAt_window a n off src ho, Nat.sub_eq_zero_of_le h, List.replicate_zero, List.append_nil]

theorem putBE64_zeros (a : Bytes) (n lo hi : Nat) (v : UInt64) (hlo : lo = a.length) (hhi : hi = a.length + 8) (h : 8 ≤ n) :
    putBE64 (a ++ List.replicate n 0) lo hi v = .ok (a ++ be64 v ++ List.replicate (n - 8) 0) := by
  subst hlo; subst hhi
  have h2 : a.length + 8 ≤ a.length + n := by omega
  have hd : List.drop (a.length + 8) a = [] := List.drop_eq_nil_of_le (by omega)
  simp [putBE64, h2, hd, List.drop_append]

end OAP.Bytes
