/-
protocolV1.Pack / protocolV2.Pack (go/v1/v1.go, go/v2/v2.go) and the two headerFromMetadata (go/v1/header.go, go/v2/v2_header.go)
= Frame.pack / Frame.headerFromMetadata.
Function-level T2 tie, as in GenFuncsHdr.lean, whose `v1_header_pack_gen` / `v2_header_pack_gen` stand for `Header.Pack`.
The generated `Pack` carries the code after the optional compression twice (the translator inlines the continuation of an `if` that
contains a `return` into both branches). That code is proved against the model's second phase (`packTail`) ONCE, for an arbitrary
packet, without its text being written here: see `with_tail`.
The equalities hold without any hypothesis: a signature of any length (`copy` into the last sixteen zero bytes is `sigWindow`), any body
and metadata size, any threshold, negative ones included; the limit check comes before the header error in both.
A returned error carries no packet on either side: that Go has by then overwritten `Body` / `Metadata.Gzip` of the caller's packet
(compressor or limit error after `Metadata.Gzip = false`, limit error after the compression) is not modelled.
-/
import OAP.Proofs.Bytes
import OAP.Proofs.GenFuncsProto
namespace OAP.GenFuncs
open OAP OAP.Gen.Fn OAP.Frame

/-- the model's `PType` as the generated enum (`other` ↦ "": the only value outside the declared constants the enum has) -/
def toGPType : PType → GPacketType
  | .request => .requestPacket | .response => .responsePacket | .push => .pushPacket | .other => .zero

/-- the model's flat `Packet` as the generated `protocol.Packet` with its `*Metadata` -/
def toG (p : Packet) : GPacket :=
  { metadata := { type := toGPType p.type, cmdCode := p.cmd, requestId := p.rid, timeout := p.timeout, statusCode := p.status,
                  verify := p.verify, gzip := p.gzip, nonce := p.nonce, signature := p.signature, values := p.values, codec := p.codec }
    body := p.body }

theorem toModel_toG (p : Packet) : toModelPacket (toG p) = p := by
  cases p with
  | mk t c r to s v g n sg vals co b => cases t <;> rfl

theorem toG_toModel (g : GPacket) : toG (toModelPacket g) = g := by
  cases g with
  | mk m b =>
    cases m with
    | mk n r c v gz to co s t sg vals => cases t <;> rfl

theorem v1_hfm_eq (g : GPacket) : v1_headerFromMetadata g.metadata = .ok (v1G (headerFromMetadata .v1 (toModelPacket g))) := by
  cases g with
  | mk m b =>
    cases m with
    | mk n r c v gz to co s t sg vals => cases v <;> cases gz <;> cases t <;> rfl

theorem v2_hfm_eq (g : GPacket) : v2_headerFromMetadata g.metadata = .ok (v2G (headerFromMetadata .v2 (toModelPacket g))) := by
  cases g with
  | mk m b =>
    cases m with
    | mk n r c v gz to co s t sg vals => cases v <;> cases gz <;> cases t <;> rfl

/-- the header `Pack` hands to `Header.Pack`, for a generated packet and its metadata block -/
def packHdr (v : Ver) (P : GPacket) (md : Bytes) : Header :=
  { headerFromMetadata v (toModelPacket P) with bodyLength := UInt32.ofNat P.body.length, metadataLength := UInt16.ofNat md.length }

theorem packHdr_type (v : Ver) (P : GPacket) (md : Bytes) : (packHdr v P md).type = (headerFromMetadata v (toModelPacket P)).type := rfl

def mdBlock (v : Ver) (P : GPacket) : Bytes :=
  match v with | .v1 => [] | .v2 => Metadata.marshalMap P.metadata.values (Int.ofNat (65535 : Nat))

theorem packTail_toModel (v : Ver) (P : GPacket) :
    packTail v (toModelPacket P) = if P.body.length > 16777215 then .err "body length hit limit" else
      match Header.pack v (packHdr v P (mdBlock v P)) with
      | .ok hd => .ok (hd ++ mdBlock v P ++ P.body ++
          (if P.metadata.verify then be64 P.metadata.nonce ++ sigWindow P.metadata.signature else []), toModelPacket P)
      | .err e => .err e
      | .panic w => .panic w := by
  have eM := maxBody_eq
  have eD : ((Gen.v2_MaxMetadataLength : Nat) : Int) = Int.ofNat (65535 : Nat) := rfl
  cases v <;>
    (unfold packTail packHdr mdBlock
     simp only [eM, eD, toModelPacket]
     split
     · rfl
     · cases Header.pack _ _ <;> rfl)

/-! the header as the generated `Pack` builds it: `headerFromMetadata`'s with the length field(s) set -/
theorem hdr1_eq (P : GPacket) :
    { v1G (headerFromMetadata .v1 (toModelPacket P)) with bodyLength := UInt32.ofNat P.body.length } = v1G (packHdr .v1 P []) := rfl

theorem hdr2_eq (P : GPacket) (md : Bytes) :
    { v2G (headerFromMetadata .v2 (toModelPacket P)) with
        metadataLength := UInt16.ofNat md.length, bodyLength := UInt32.ofNat P.body.length } = v2G (packHdr .v2 P md) := rfl

/-- the frame as `Pack` fills it: header, metadata block, body and (verify) trailer, copied one after the other into a zeroed buffer
of exactly their length -/
theorem fill_buffer (hd md b sig : Bytes) (nonce : UInt64) (vf : Bool) (l off : Nat)
    (ho : off = hd.length + md.length + b.length) (hl : l = off + (if vf then 8 + 16 else 0)) :
    ∃ d1 d2 d3, Bytes.copyAt (List.replicate l 0) 0 hd = .ok d1 ∧ Bytes.copyAt d1 hd.length md = .ok d2 ∧
      Bytes.copyAt d2 (hd.length + md.length) b = .ok d3 ∧
      (if vf then (Bytes.putBE64 d3 off (off + 8) nonce).bind (fun d => Bytes.copyAt d (off + 8) sig) else .ok d3) =
        .ok (hd ++ md ++ b ++ (if vf then be64 nonce ++ sigWindow sig else [])) := by
  subst ho hl
  have s1 := Bytes.copyAt_zeros0 (hd.length + md.length + b.length + (if vf then 8 + 16 else 0)) hd (by omega)
  have s2 := Bytes.copyAt_zeros hd (hd.length + md.length + b.length + (if vf then 8 + 16 else 0) - hd.length) hd.length md rfl (by omega)
  have s3 := Bytes.copyAt_zeros (hd ++ md) (hd.length + md.length + b.length + (if vf then 8 + 16 else 0) - hd.length - md.length)
    (hd.length + md.length) b (by simp only [List.length_append]) (by omega)
  refine ⟨_, _, _, s1, s2, s3, ?_⟩
  cases vf
  · have hn : hd.length + md.length + b.length - hd.length - md.length - b.length = 0 := by omega
    simp [hn]
  · have hn : hd.length + md.length + b.length + (8 + 16) - hd.length - md.length - b.length = 24 := by omega
    simp only [↓reduceIte, hn]
    rw [Bytes.putBE64_zeros (hd ++ md ++ b) 24 _ _ nonce (by simp only [List.length_append]) (by simp only [List.length_append]) (by omega),
      rbind_ok, Bytes.copyAt_window (hd ++ md ++ b ++ be64 nonce) (24 - 8) _ sig
        (by simp only [List.length_append, be64, List.length_cons, List.length_nil])]
    simp [sigWindow, sigLen_eq]

/-- A goal from a statement `Q T` about a `T` that `apply with_tail Q` leaves open, as a metavariable. Here `T` is the code after the
optional compression as a function of the packet and the body length that stand there. The branch without compression is, once packet
and length are generalised, literally `T P n` for variables `P n`: unification reads `T` off the goal. The branch with compression
must then be an instance of the same `T` (so the two copies the translator made are checked to be one piece of code), and `Q T` is
proved once, for every packet. -/
theorem with_tail {τ : Type} {goal : Prop} (Q : τ → Prop) (T : τ) (hmain : Q T → goal) (htail : Q T) : goal := hmain htail

/-- the optional compression in front of two results `X0` (body as it is) and `X1 a` (body compressed to `a`) that each are the
model's second phase on the packet that stands there -/
theorem phase_one (v : Ver) (gz : GzOracle) (p : Packet) (thr : Int) (c : Bool) (hc : gzipCond v thr p.body.length = c)
    (X0 : Res (Bytes × GPacket)) (X1 : Bytes → Res (Bytes × GPacket))
    (h0 : X0.map (fun r => (r.1, toModelPacket r.2)) = packTail v { p with gzip := false })
    (h1 : ∀ a, (X1 a).map (fun r => (r.1, toModelPacket r.2)) = packTail v { p with body := a, gzip := true }) :
    (if c then (gz.compress p.body).bind X1 else X0).map (fun r => (r.1, toModelPacket r.2)) = packPre v gz p thr >>= packTail v := by
  unfold packPre
  rw [hc]
  cases c
  · simpa [Res.ok_bind'] using h0
  · cases hz : gz.compress p.body with
    | err e => rfl
    | panic w => rfl
    | ok a => simpa [rbind_ok, Res.ok_bind'] using h1 a

theorem v1_pack_gen_g (gz : GzOracle) (g : GPacket) (thr : Int) :
    (v1_protocolV1_Pack gz g thr).map (fun r => (r.1, toModelPacket r.2)) = Frame.pack .v1 gz (toModelPacket g) thr := by
  rw [pack_eq]
  unfold v1_protocolV1_Pack
  extract_lets +onlyGivenNames bl md0 P0
  apply with_tail (fun T : GPacket → Nat → Res (Bytes × GPacket) => ∀ (P : GPacket) (n : Nat), n = P.body.length →
      Res.map (fun r => (r.1, toModelPacket r.2)) (T P n) = packTail .v1 (toModelPacket P))
  · intro tail
    refine phase_one .v1 gz (toModelPacket g) thr _ rfl _ _ ?_ (fun a => ?_)
    · show _ = packTail .v1 (toModelPacket P0)
      have hn : bl = P0.body.length := rfl
      generalize P0 = P at hn ⊢
      generalize bl = n at hn ⊢
      exact tail P n hn
    · exact tail ⟨{P0.metadata with gzip := true}, a⟩ a.length rfl
  · intro P n hn
    subst hn
    rw [packTail_toModel]
    simp only [mdBlock, v1_hfm_eq, rbind_ok, hdr1_eq, v1_header_pack_gen]
    simp only [v1G]
    by_cases hlen : P.body.length > 16777215
    · simp [hlen, Res.map]
    · simp only [hlen, decide_false, Bool.false_eq_true, if_false]
      cases hp : Header.pack .v1 (packHdr .v1 P []) with
      | err e => rfl
      | panic w => rfl
      | ok hd =>
        simp only [rbind_ok]
        rcases Header.pack_ok_len hp with ⟨ht, hl⟩ | ⟨ht, hl⟩ | ⟨ht, hl⟩ <;> cases hv : P.metadata.verify <;>
          (simp only [reqLen, respLen, pushLen, Gen.v1_RequestHeaderLen, Gen.v1_ResponseHeaderLen, Gen.v1_PushHeaderLen] at hl
           rw [packHdr_type] at ht
           obtain ⟨d1, d2, d3, q1, q2, q3, q4⟩ := fill_buffer hd [] P.body P.metadata.signature P.metadata.nonce P.metadata.verify _
             (hd.length + P.body.length) (by simp) rfl
           obtain rfl := Bytes.copyAt_nil q2
           simp [hv] at q1 q3 q4
           simp [ht, ← hl, rbind_ok, q1, q3, q4, Res.map, Res.bind_ok_right])

theorem v2_pack_gen_g (gz : GzOracle) (g : GPacket) (thr : Int) :
    (v2_protocolV2_Pack gz g thr).map (fun r => (r.1, toModelPacket r.2)) = Frame.pack .v2 gz (toModelPacket g) thr := by
  rw [pack_eq]
  unfold v2_protocolV2_Pack
  extract_lets +onlyGivenNames bl md0 P0
  apply with_tail (fun T : GPacket → Nat → Res (Bytes × GPacket) => ∀ (P : GPacket) (n : Nat), n = P.body.length →
      Res.map (fun r => (r.1, toModelPacket r.2)) (T P n) = packTail .v2 (toModelPacket P))
  · intro tail
    refine phase_one .v2 gz (toModelPacket g) thr _ rfl _ _ ?_ (fun a => ?_)
    · show _ = packTail .v2 (toModelPacket P0)
      have hn : bl = P0.body.length := rfl
      generalize P0 = P at hn ⊢
      generalize bl = n at hn ⊢
      exact tail P n hn
    · exact tail ⟨{P0.metadata with gzip := true}, a⟩ a.length rfl
  · intro P n hn
    subst hn
    rw [packTail_toModel]
    simp only [mdBlock, v2_hfm_eq, rbind_ok, hdr2_eq, v2_header_pack_gen]
    simp only [v2G]
    generalize Metadata.marshalMap P.metadata.values (Int.ofNat (65535 : Nat)) = md
    by_cases hlen : P.body.length > 16777215
    · simp [hlen, Res.map]
    · simp only [hlen, decide_false, Bool.false_eq_true, if_false]
      cases hp : Header.pack .v2 (packHdr .v2 P md) with
      | err e => rfl
      | panic w => rfl
      | ok hd =>
        simp only [rbind_ok]
        rcases Header.pack_ok_len hp with ⟨ht, hl⟩ | ⟨ht, hl⟩ | ⟨ht, hl⟩ <;> cases hv : P.metadata.verify <;>
          (simp only [reqLen, respLen, pushLen, Gen.v2_RequestHeaderLen, Gen.v2_ResponseHeaderLen, Gen.v2_PushHeaderLen] at hl
           rw [packHdr_type] at ht
           obtain ⟨d1, d2, d3, q1, q2, q3, q4⟩ := fill_buffer hd md P.body P.metadata.signature P.metadata.nonce P.metadata.verify
             (hd.length + P.body.length + md.length + (if P.metadata.verify then 8 + 16 else 0)) (hd.length + md.length + P.body.length) rfl (by omega)
           simp [hv] at q1 q4
           simp [ht, ← hl, rbind_ok, q1, q2, q3, q4, Res.map, Res.bind_ok_right])

end OAP.GenFuncs
