/-
Runs of a labelled transition system given by a partial step function.  Each view that is a transition system (not Keepalive, Reconnect
or the Lockset views) defines its own `step` and `run` (their statements mention them); `IsRun step run` says that `run` iterates `step`, which holds of each
of them by `rfl`, and the facts about runs are proved here once (last, a `List.filter` lemma for the views that count steps).

A proof about one step, from `hs : step s a = some s'`, in a view whose `step` is ONE function opens with
`revert hs; fun_cases step s a <;> rintro ⟨⟩`.  `fun_cases` is the case analysis Lean derives from the definition of `step`: one
goal per branch, with the tests that lead there as hypotheses and the branch's result in place of `step s a`; `rintro ⟨⟩`
closes the branches that return `none` and puts the post-state in for `s'` in the others.  Where the step is to keep an invariant
(`i : Inv s`, goal `Inv s'`), `constructor` follows and the fields go one by one,
`case f => first | with_reducible exact i.f | (have := i.f; have := i.g; intros; grind)`: a field the branch has not touched is
`i`'s, any other goes to `grind` with only the fields of `i` it rests on (with all of them in the context `grind` is several
times dearer).
Two views do not open that way.  LockWait's `stepV` only hands the action to one of five functions, where `fun_cases stepV`
would stop: its proofs unfold all of them and split (`cases a <;> simp only [stepV, stepEnv, …] at hs <;> (repeat' split at hs)
<;> cases hs`).  Recovery's `inv_stepN/R/C` close every branch by a term that takes the branch's tests by name: they `split` by
hand, one labelled bullet per pc.
-/
namespace OAP.LTS
variable {σ α : Type} {step : σ → α → Option σ} {run : σ → List α → Option σ}

structure IsRun (step : σ → α → Option σ) (run : σ → List α → Option σ) : Prop where
  nil : ∀ s, run s [] = some s
  cons : ∀ s a as, run s (a :: as) = (step s a).bind (fun s' => run s' as)

namespace IsRun

theorem cons_some (R : IsRun step run) {s s' : σ} {a : α} {as : List α} (h : run s (a :: as) = some s') :
    ∃ s1, step s a = some s1 ∧ run s1 as = some s' := by
  rw [R.cons] at h
  cases hst : step s a with
  | none => simp [hst] at h
  | some s1 => exact ⟨s1, rfl, by simpa [hst] using h⟩

theorem append (R : IsRun step run) (as bs : List α) : ∀ (s s' : σ),
    run s (as ++ bs) = some s' ↔ ∃ s1, run s as = some s1 ∧ run s1 bs = some s' := by
  induction as with
  | nil => intro s s'; simp [R.nil]
  | cons a as ih =>
    intro s s'
    simp only [List.cons_append, R.cons]
    cases step s a with
    | none => simp
    | some s1 => simpa using ih s1 s'

theorem preserves (R : IsRun step run) {I : σ → Prop} {ok : α → Prop}
    (hstep : ∀ s a s', I s → ok a → step s a = some s' → I s') :
    ∀ (as : List α) (s s' : σ), I s → (∀ a ∈ as, ok a) → run s as = some s' → I s' := by
  intro as
  induction as with
  | nil => intro s s' h _ hr; rw [R.nil] at hr; cases hr; exact h
  | cons a as ih =>
    intro s s' h hok hr
    obtain ⟨s1, h1, h2⟩ := R.cons_some hr
    exact ih s1 s' (hstep s a s1 h (hok a (by simp)) h1) (fun b hb => hok b (by simp [hb])) h2

theorem inv (R : IsRun step run) {I : σ → Prop} (hstep : ∀ s a s', I s → step s a = some s' → I s')
    (as : List α) (s s' : σ) (h : I s) (hr : run s as = some s') : I s' :=
  R.preserves (ok := fun _ => True) (fun s a s' h _ => hstep s a s' h) as s s' h (fun _ _ => trivial) hr

/-- The skeleton of a negative result: the run `demo` from `s0` is evaluated (`hd`, by `decide` at the call) and ends in a state
where `b` holds, and every `ok` step keeps `b` under the invariant `I`. -/
theorem strands (R : IsRun step run) {I b : σ → Prop} [DecidablePred b] {ok : α → Prop}
    (hI : ∀ s a s', I s → step s a = some s' → I s')
    (hb : ∀ s a s', I s → b s → ok a → step s a = some s' → b s')
    (s0 : σ) (demo : List α) (h0 : I s0) (hd : (run s0 demo).any (b ·) = true) :
    ∃ s, run s0 demo = some s ∧ (I s ∧ b s) ∧
      ∀ as s', (∀ a ∈ as, ok a) → run s as = some s' → I s' ∧ b s' := by
  obtain ⟨s, hr, hs⟩ := (Option.any_eq_true _ _).mp hd
  have h : I s ∧ b s := ⟨R.inv hI demo s0 s h0 hr, of_decide_eq_true hs⟩
  exact ⟨s, hr, h, fun as s' => R.preserves (I := fun s => I s ∧ b s)
    (fun s a s' h ha hst => ⟨hI s a s' h.1 hst, hb s a s' h.1 h.2 ha hst⟩) as s s' h⟩

theorem strands' (R : IsRun step run) {b : σ → Prop} [DecidablePred b] {ok : α → Prop}
    (hb : ∀ s a s', b s → ok a → step s a = some s' → b s') (s0 : σ) (demo : List α)
    (hd : (run s0 demo).any (b ·) = true) :
    ∃ s, run s0 demo = some s ∧ b s ∧ ∀ as s', (∀ a ∈ as, ok a) → run s as = some s' → b s' := by
  obtain ⟨s, hr, ⟨-, hs⟩, hall⟩ :=
    R.strands (I := fun _ => True) (fun _ _ _ _ _ => trivial) (fun s a s' _ => hb s a s') s0 demo trivial hd
  exact ⟨s, hr, hs, fun as s' hq hrun => (hall as s' hq hrun).2⟩

theorem can_finish (R : IsRun step run) {I done : σ → Prop} {good : α → Prop} (μ : σ → Nat)
    (hprog : ∀ s, I s → ¬ done s → ∃ a s', good a ∧ step s a = some s' ∧ I s' ∧ μ s' < μ s) (s : σ) (h : I s) :
    ∃ as s', (∀ a ∈ as, good a) ∧ run s as = some s' ∧ done s' := by
  induction hn : μ s using Nat.strongRecOn generalizing s with
  | _ n ih =>
    by_cases hd : done s
    · exact ⟨[], s, by simp, R.nil s, hd⟩
    · obtain ⟨a, s1, ha, h1, hi1, hlt⟩ := hprog s h hd
      obtain ⟨as, s', hp, hr, hx⟩ := ih (μ s1) (hn ▸ hlt) s1 hi1 rfl
      exact ⟨a :: as, s', List.forall_mem_cons.mpr ⟨ha, hp⟩, by rw [R.cons, h1]; exact hr, hx⟩

theorem unique {run' : σ → List α → Option σ} (R : IsRun step run) (R' : IsRun step run') (as : List α) :
    ∀ s, run s as = run' s as := by
  induction as with
  | nil => intro s; rw [R.nil, R'.nil]
  | cons a as ih => intro s; rw [R.cons, R'.cons]; cases step s a <;> simp [ih]

end IsRun

theorem length_filter_cons {α : Type} (p : α → Bool) (a : α) (as : List α) :
    ((a :: as).filter p).length = (if p a then 1 else 0) + (as.filter p).length := by
  rw [List.filter_cons]; split <;> simp <;> omega

end OAP.LTS
